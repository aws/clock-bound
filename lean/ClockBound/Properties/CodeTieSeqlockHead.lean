/-
  The seqlock tie at HEAD: the annotation found in the source (`CodeTieSeqlock.ann`) IS the model's default `{}`,
  so the theorems of `Properties/CodeTieSeqlock.lean` specialise to the pinned statements (Acquire load, Release
  stores, Release fence; Acquire loads, Acquire fence).  This module is INFORMATIVE about the current source: it is
  expected to stop building when a refactoring strengthens an ordering of `write` / `snapshot` (the theorems of
  `CodeTieSeqlock` keep building then).
-/
import ClockBound.Properties.CodeTieSeqlock
namespace ClockBound.CodeTieSeqlockHead
open ClockBound ClockBound.Rs ClockBound.Generated ClockBound.Rs.DictShm ClockBound.Rs.EmbedShm ClockBound.Rs.SeqlockProof

theorem ann_default : CodeTieSeqlock.ann = {} := SeqlockProof.snapAnn_eq

theorem write_eq (inp : Nat → Nat) (cells : List Nat) (segsize : Nat) (nowNs : Int) (sizes : List (String × Nat)) :
    run (CodeTieSeqlock.ctx nowNs sizes inp) "ShmWrite for ShmWriter::write" (writerValue segsize) [wordsValue cells]
    = .ok .unit (writerValue segsize) ((SL.writerProg {} (inp 0 % 65536) cells).map accValue) := by
  rw [← ann_default]; exact CodeTieSeqlock.write_eq inp cells segsize nowNs sizes

/-- the accesses spelt out -/
theorem write_ann (inp : Nat → Nat) (cells : List Nat) (segsize : Nat) (nowNs : Int) (sizes : List (String × Nat)) :
    run (CodeTieSeqlock.ctx nowNs sizes inp) "ShmWrite for ShmWriter::write" (writerValue segsize) [wordsValue cells]
    = .ok .unit (writerValue segsize)
        ([evLoad (.str "generation") (ordering "Acquire") (.int .u16 (inp 0 % 65536 : Nat)),
          evStore (.str "generation") (.int .u16 (genStart (inp 0 % 65536))) (ordering "Release"),
          evFence (ordering "Release")] ++
         ((List.range cells.length).map fun c =>
            evStore (cellLoc c) (.int .u64 ((cells[c]?.getD 0 : Nat) : Int)) (ordering "Relaxed")) ++
         [evStore (.str "generation") (.int .u16 (genFinish (genStart (inp 0 % 65536)))) (ordering "Release")]) := by
  rw [write_eq]
  simp [SL.writerProg, accValue, locValue, locTy, ordValue, List.map_map, Function.comp_def]

theorem snapshot_eq (inp : Nat → Nat) (cacheGen : Nat) (cache : List Nat) (nowNs : Int) (sizes : List (String × Nat))
    (fuel : Nat) (hfuel : SL.RETRIES + 200 ≤ fuel) :
    runFuel fuel (CodeTieSeqlock.ctx nowNs sizes inp) "ShmReader::snapshot" (readerValue cacheGen cache) []
    = readerOutcome (SL.readerProg {} (typedInp inp) cacheGen cache) := by
  rw [← ann_default]; exact CodeTieSeqlock.snapshot_eq inp cacheGen cache nowNs sizes fuel hfuel

end ClockBound.CodeTieSeqlockHead

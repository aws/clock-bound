/-
  C07 (with the PHC bound) and C19 (the drift reaches the updater) on `ShmUpdater` stated ABOUT THE SOURCE (see `OnCodeClient.lean` for the reading): each theorem mentions the
  regenerated AST `Generated.Code` run by the interpreter, and the oracle of the property; model functions occur only
  as witnesses.  Compositions of `CodeTieUpdater.*` with the `model_holds` theorems of the properties.
-/
import ClockBound.Properties.CodeTieUpdater
import ClockBound.Properties.C07
import ClockBound.Properties.C19
namespace ClockBound.OnCode
open ClockBound ClockBound.Rs ClockBound.Generated

/-- **C07 with the PHC bound, C10, on `process_clock_update`**: one `ClockErrorBoundData` message handled by the
    source publishes (hands to `ShmWrite::write`) exactly one record or panics; when the report classifies as
    Synchronized the record's bound satisfies the C07 oracle with the PHC bound added -/
theorem C07_process_clock_update (u : Updater) (t : Tracking) (phc : Int) (asOf : TimeSpec) (nowNs : Int)
    (hs : classify t nowNs = .synchronized) (hok : (Msg.data t phc asOf nowNs).ok = true) :
    ∃ (u' : Updater) (r : Record),
      run (Code.ctx nowNs) "ShmUpdater::process_clock_update" (updaterValue u)
        [trackingValue t, .int .i64 phc, ctimespecValue asOf] = .ok .unit (updaterValue u') [recordValue r] ∧
      C07.Holds t phc r.bound = true ∧ r.asOf = asOf := by
  have ha : abstractMsg (.data t phc asOf nowNs) = .report (boundF t + phc) .synchronized asOf := by
    rw [abstractMsg, hs]
  rw [CodeTieUpdater.process_clock_update_eq,
    Updater.step_ok hok (by rw [ha]; exact (Bool.and_eq_true_iff.1 hok).2), ha]
  exact ⟨_, _, rfl, C07.model_holds t phc, rfl⟩

/-- … and `ShmUpdater::new` stores it unchanged, from where `C08_C09_process_messages` (clause "the configured
    drift") carries it into every record -/
theorem C19_updater_new (drift : Nat) (nowNs : Int) :
    run (Code.ctx nowNs) "ShmUpdater::new" .unit [.writer, .int .u32 drift]
      = .ok (updaterValue (Updater.new drift)) .unit [] ∧ (Updater.new drift).drift = drift :=
  ⟨CodeTieUpdater.new_eq drift nowNs, rfl⟩

end ClockBound.OnCode

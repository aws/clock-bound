/-
  C13 and the daemon half of C12 stated ABOUT THE SOURCE (see `OnCodeClient.lean` for the reading): each theorem
  mentions the regenerated AST `Generated.Code` of clock-bound-d/src/chrony_poller.rs run by the interpreter with the
  dictionary `Rs/DictPoller.lean`, and the oracle of the property (`C13.Holds`, `C12d.Holds` / `C12d.HoldsIter`: the
  decidable predicates the correspondence check evaluates on the real daemon's messages and read logs).  The model
  (`pollStep`, `Poller.run`) occurs only as the witness of an existential: "the messages in the code's event log are
  the embedding of SOME list `msgs`, and `msgs` satisfies the oracle for the environment's history".
  Compositions of `CodeTiePoller.run_eq` / `loop_eq` / `iteration_eq` with `C13.model_holds`, `C12d.holds_from`,
  `C12d.holdsIter_step`, `C13.startup_run_all_unknown`; bridging lemmas in `Proofs/OnCodePoller.lean`:
  `sentOf` (the messages of the `send` events of a log), `obsLogOf` (the harness's observation codes of its
  events), `chunksOf` (the log cut after every wait on the mailbox: one chunk per loop iteration).

  What the environment is: a history `xs ++ [last]` of loop iterations, each with the model's inputs (`PollIter`:
  the monotonic reading, chronyd's reply, the `Instant` readings, the state of the sysfs file) and the rest
  (`IterEnv`: what `send` and `recv_timeout` return, ..); `recv_timeout` returns `Ok(ThreadAbort)` exactly in the
  last one; every `send` succeeds; the input stream provides what these iterations consume (`pollRunInputs`).

  A limit of the tie shows here: when the thread panics (`expect` on an unparsable sysfs value) the interpreter's
  result is `Outcome.panic`, which carries no log.  So for a panicking run the theorems say that it panics and
  that the model's message list for this history ends in `panic` (and satisfies the oracle), but the messages sent
  BEFORE the panic are not stated about the code.
-/
import ClockBound.Proofs.OnCodePoller
namespace ClockBound.OnCode
open ClockBound ClockBound.Rs ClockBound.Generated ClockBound.Rs.DictPoller

/-- decoding is unambiguous: two messages (not the model's pseudo-message `panic`) with the same embedding are equal -/
theorem pollMsgValue_inj (m1 m2 : PollMsg) (h1 : m1 ≠ .panic) (h2 : m2 ≠ .panic)
    (h : pollMsgValue m1 = pollMsgValue m2) : m1 = m2 := by
  cases m1 <;> cases m2 <;> simp [pollMsgValue, trackingValue, ctimespecValue] at h h1 h2 ⊢
  case data.data t1 p1 a1 t2 p2 a2 =>
    obtain ⟨⟨h1, h2, h3, h4, h5, h6, h7⟩, hp, ha1, ha2⟩ := h
    refine ⟨?_, hp, ?_⟩
    · cases t1; cases t2; simp_all
    · cases a1; cases a2; simp_all

/-- what `CodeTiePoller.run_eq` says of a run, in terms of the model's message list: a panic where that list ends in
    `panic`, else a log whose `send` events carry the list -/
theorem run_cases (tStart : Int) (refid : Option Nat) (ys : List IterIn) (out : Rs.Outcome)
    (h : out = match pollRun refid (Poller.init tStart) ys with
      | none => .panic
      | some (_, l) => .ok .unit .unit (evInstantNow (instant tStart) :: l)) :
    (out = .panic ∧ PollMsg.panic ∈ Poller.run tStart refid (ys.map IterIn.it)) ∨
    ∃ log, out = .ok .unit .unit log ∧ sentOf log = (Poller.run tStart refid (ys.map IterIn.it)).map pollMsgValue ∧
      PollMsg.panic ∉ Poller.run tStart refid (ys.map IterIn.it) := by
  cases hr : pollRun refid (Poller.init tStart) ys with
  | none => exact Or.inl ⟨by rw [h, hr], (pollRun_none_iff_runFrom_panics _ _ _).1 hr⟩
  | some p =>
    obtain ⟨s', l⟩ := p
    exact Or.inr ⟨evInstantNow (instant tStart) :: l, by rw [h, hr], (pollRun_log refid _ _ _ _ hr).1,
      mt (pollRun_none_iff_runFrom_panics _ _ _).2 (by simp [hr])⟩

/-- **C13 on the source** — the poller thread's entry point `chrony_poller::run(ctx, phc_info)` of the current
    source (`ClockErrorBoundPoller::default()` at `Instant` `tStart`, then the loop), on ANY history of iterations
    ending with `ThreadAbort`: either it runs to completion, returns `()`, and the messages it sent to the
    ShmWriter channel, in order (`sentOf log`), one per iteration, are the embedding of a list `msgs` that satisfies
    the C13 oracle for this history (silence: FreeRunning-class iff the last accepted Tracking reply is less than
    5 s old, Unknown-class at once when there never was one; matching PHC reference: the sysfs value is attached,
    an unreadable file gives a failure message, never a measurement; other reference / no PHC: bound 0); or the
    thread panics, and the oracle-satisfying list ends in the model's `panic`. -/
theorem C13_run (nowNs : Int) (inp : Nat → Value) (refid : Option Nat) (e0 : IterEnv)
    (hsleep : e0.sleepNs = 1000000000) (last : IterIn) (hlast : last.ok e0) (habort : last.env.isAbort = true)
    (xs : List IterIn) (hxs : ∀ x ∈ xs, x.ok e0 ∧ x.env.isAbort = false) (tStart : Int)
    (ht : instantLo ≤ tStart - GRACE_NS) (h0 : inp 0 = instant tStart)
    (hin : inputsAt inp 1 (pollRunInputs refid (Poller.init tStart) (xs ++ [last]))) (F : Nat)
    (hF : xs.length + 85 ≤ F) :
    ∃ msgs : List PollMsg,
      C13.Holds tStart refid ((xs ++ [last]).map IterIn.it) msgs = true ∧
      ((runFuel F (CodeTiePoller.ctxP nowNs inp) "chrony_poller::run" .unit
          [contextValue "ChannelId::ClockErrorBoundPoller", optPhcValue e0.path refid] = .panic ∧
        PollMsg.panic ∈ msgs) ∨
       (∃ log, runFuel F (CodeTiePoller.ctxP nowNs inp) "chrony_poller::run" .unit
          [contextValue "ChannelId::ClockErrorBoundPoller", optPhcValue e0.path refid] = .ok .unit .unit log ∧
        sentOf log = msgs.map pollMsgValue ∧ PollMsg.panic ∉ msgs ∧ msgs.length = xs.length + 1)) := by
  refine ⟨Poller.run tStart refid ((xs ++ [last]).map IterIn.it), C13.model_holds _ _ _, ?_⟩
  rcases run_cases tStart refid _ _
    (CodeTiePoller.run_eq nowNs inp refid e0 hsleep last hlast habort xs hxs tStart ht h0 hin F hF)
    with h | ⟨log, hrun, hs, hnp⟩
  · exact Or.inl h
  · exact Or.inr ⟨log, hrun, hs, hnp, by simpa [Poller.run] using Poller.runFrom_length_of_no_panic refid _ _ hnp⟩

/-- **C13 on the source, start-up clause spelled out**: a daemon that never gets a Tracking reply (every reply
    is a silence: `Err` or a non-Tracking body) and whose `Instant` readings do not go backwards sends
    `Message::ChronyNotResponding` — the Unknown-class message, never the grace-period one — in EVERY iteration,
    from the first one on -/
theorem C13_startup_run (nowNs : Int) (inp : Nat → Value) (refid : Option Nat) (e0 : IterEnv)
    (hsleep : e0.sleepNs = 1000000000) (last : IterIn) (hlast : last.ok e0) (habort : last.env.isAbort = true)
    (xs : List IterIn) (hxs : ∀ x ∈ xs, x.ok e0 ∧ x.env.isAbort = false) (tStart : Int)
    (ht : instantLo ≤ tStart - GRACE_NS) (h0 : inp 0 = instant tStart)
    (hin : inputsAt inp 1 (pollRunInputs refid (Poller.init tStart) (xs ++ [last]))) (F : Nat)
    (hF : xs.length + 85 ≤ F)
    (hsil : ∀ x ∈ xs ++ [last], x.it.reply.isSilence = true)
    (hmono : C13.Monotone tStart refid ((xs ++ [last]).map IterIn.it)) :
    ∃ log, runFuel F (CodeTiePoller.ctxP nowNs inp) "chrony_poller::run" .unit
        [contextValue "ChannelId::ClockErrorBoundPoller", optPhcValue e0.path refid] = .ok .unit .unit log ∧
      sentOf log = (xs ++ [last]).map (fun _ => .enumv "Message::ChronyNotResponding" []) := by
  have hrun := C13.startup_run_all_unknown tStart refid ((xs ++ [last]).map IterIn.it)
    (fun i hi => by obtain ⟨x, hx, rfl⟩ := List.mem_map.1 hi; exact hsil x hx) hmono
  rcases run_cases tStart refid _ _
    (CodeTiePoller.run_eq nowNs inp refid e0 hsleep last hlast habort xs hxs tStart ht h0 hin F hF)
    with ⟨-, hp⟩ | ⟨log, hr, hs, -⟩
  · rw [hrun] at hp
    simp at hp
  · refine ⟨log, hr, ?_⟩
    rw [hs, hrun]
    simp [pollMsgValue, Function.comp_def]

/-- **C12 (daemon half) on the source** — the loop `run_clock_error_bound_poller` of the current source, from ANY
    poller state, on any history ending with `ThreadAbort`: if it does not panic, its event log, cut after every
    wait on the mailbox, is one chunk per iteration, and the messages it sent together with the observation logs of
    the chunks (clock ids of the reads, query, send, wait — what the interposer of the harness sees) satisfy the C12
    oracle: in every iteration the CLOCK_MONOTONIC_COARSE read comes before the query to chronyd, and a data message
    carries as its as-of exactly the value that read returned (`PollIter.asOf` of the history), nothing read later -/
theorem C12_loop (nowNs : Int) (inp : Nat → Value) (refid : Option Nat) (e0 : IterEnv) (last : IterIn)
    (hlast : last.ok e0) (habort : last.env.isAbort = true) (xs : List IterIn)
    (hxs : ∀ x ∈ xs, x.ok e0 ∧ x.env.isAbort = false) (s : PollerState)
    (hin : inputsAt inp 0 (pollRunInputs refid s (xs ++ [last]))) (F : Nat) (hF : xs.length + 75 ≤ F) :
    runFuel F (CodeTiePoller.ctxP nowNs inp) "chrony_poller::run_clock_error_bound_poller" .unit
      [contextValue "ChannelId::ClockErrorBoundPoller", pollerValue s, optPhcValue e0.path refid, .duration e0.sleepNs]
      = .panic ∨
    ∃ (log : List Value) (msgs : List PollMsg),
      runFuel F (CodeTiePoller.ctxP nowNs inp) "chrony_poller::run_clock_error_bound_poller" .unit
        [contextValue "ChannelId::ClockErrorBoundPoller", pollerValue s, optPhcValue e0.path refid, .duration e0.sleepNs]
        = .ok .unit .unit log ∧
      sentOf log = msgs.map pollMsgValue ∧ (chunksOf log).length = xs.length + 1 ∧
      C12d.Holds ((xs ++ [last]).map IterIn.it) (msgs.zip ((chunksOf log).map obsLogOf)) = true := by
  rw [CodeTiePoller.loop_eq nowNs inp refid e0 last hlast habort xs hxs s hin F hF]
  cases hr : pollRun refid s (xs ++ [last]) with
  | none => exact Or.inl rfl
  | some p =>
    obtain ⟨hs, hc, hl⟩ := pollRun_log refid _ _ _ _ hr
    exact Or.inr ⟨_, _, rfl, hs, by simpa using hl, hc ▸ C12d.holds_from refid _ s⟩

/-- **C12 (daemon half) and C13 on ONE TURN of the loop** (`Rs.findLoop`, `Rs.turnIs`) of the current source, from any loop-top state whose
    `last_tracking_data` is what the specification's ghost says (`last` = the `Instant` at which the latest Tracking
    reply was accepted, `tStart − 5 s` when there was none), for all inputs of the iteration (`it`), every fuel
    `≥ 60`: there are events `evs`, a message `m` and a new poller state such that the turn panics (when `m` is the model's
    `panic`), or ends the loop (`recv_timeout` returned `Ok(ThreadAbort)`), or goes on from the top state with the new
    poller state — with `evs` appended to the log and one input consumed per event —; at most the one message `m` is sent; `m` satisfies the C13 clauses for this iteration; the
    observation log of `evs` starts with the MONOTONIC_COARSE read (6) followed by the query (−1) and, with `m`,
    satisfies the C12 oracle (a data message carries `it.asOf`, the value of that first read); the ghost relation
    holds again afterwards -/
theorem C12_C13_iteration (e : IterEnv) (s : PollerState) (it : PollIter) (refid : Option Nat)
    (tStart : Int) (last : Option Int) (hghost : s.lastGood = last.getD (tStart - GRACE_NS))
    (nowNs : Int) (inp : Nat → Value) (log : List Value) (pos : Nat) (pre : List Stmt) (c : Expr) (body : List Stmt)
    (hfl : findLoop Code.fn_chrony_poller__run_clock_error_bound_poller.body = some (pre, c, body))
    (hother : e.other ≠ "ReplyBody::Tracking") (hsend : e.sendRes = okUnit)
    (hin : inputsAt inp pos ((IterIn.trace refid s ⟨it, e⟩).map (pollEvInput e)))
    (K : Nat) (hK : 60 ≤ K) :
    ∃ (evs : List Value) (m : PollMsg) (s' : PollerState),
      turnIs (CodeTiePoller.ctxP nowNs inp) CodeTiePoller.frP c body K
        (evalWhile (K + 2) (CodeTiePoller.ctxP nowNs inp) CodeTiePoller.frP c body
          (CodeTiePoller.topP nowNs inp pre e s refid log pos))
        (if m = .panic then .panic
         else if e.isAbort = true then .done (log ++ evs) (pos + evs.length)
         else .next (CodeTiePoller.topP nowNs inp pre e s' refid (log ++ evs) (pos + evs.length))) ∧
      sentOf evs = (if m = .panic then [] else [pollMsgValue m]) ∧
      C13.HoldsIter tStart refid last it m = true ∧
      (obsLogOf evs).take 2 = [6, -1] ∧
      C12d.HoldsIter it.asOf (obsLogOf evs) m = true ∧
      s'.lastGood = (C13.accept last it).getD (tStart - GRACE_NS) := by
  refine ⟨(IterIn.trace refid s ⟨it, e⟩).map (pollEvValue e), (it.step refid s).2, (it.step refid s).1, ?_, ?_, ?_, ?_, ?_, ?_⟩
  · have := CodeTiePoller.iteration_eq e s it.asOf it.reply it.tReply it.tGrace refid it.file nowNs inp log pos pre c
      body hfl hother hsend hin K hK
    rw [List.length_map]
    exact this
  · exact iter_sent e refid s ⟨it, e⟩
  · exact C13.holdsIter_step tStart refid last s it hghost
  · rw [iter_obs e refid s ⟨it, e⟩]
    rfl
  · rw [iter_obs e refid s ⟨it, e⟩]
    exact C12d.holdsIter_step refid s it
  · exact PollIter.step_lastGood refid s it last _ hghost

/-! ### non-vacuity -/

private def trk (refid : Nat) : Tracking :=
  { leap := 0, refNs := 0, offW := 0, dispW := 0, delayW := 0, intervalW := 0, refid := refid }

/-- a history satisfying the hypotheses of `C13_run` / `C12_loop`: a start-up silence (an unexpected message is in
    the mailbox), a Tracking reply, a silence 3 s later (then `ThreadAbort`): the oracle-satisfying message list
    is `[ChronyNotResponding, data, ChronyNotRespondingGracePeriod]`, 15 inputs are consumed -/
example :
    let e1 : IterEnv := ⟨"/sys/x", 1000000000, "ReplyBody::Null", [], true, okUnit, true, "Message::ChronyNotResponding", []⟩
    let e2 : IterEnv := ⟨"/sys/x", 1000000000, "ReplyBody::Null", [], true, okUnit, false, "RecvTimeoutError::Timeout", []⟩
    let e3 : IterEnv := ⟨"/sys/x", 1000000000, "ReplyBody::Null", [], true, okUnit, true, "Message::ThreadAbort", []⟩
    let xs : List IterIn := [⟨⟨⟨5, 6⟩, .none, 0, 7000000000, .unreadable⟩, e1⟩,
                             ⟨⟨⟨6, 6⟩, .tracking (trk 0), 8000000000, 0, .unreadable⟩, e2⟩]
    let last : IterIn := ⟨⟨⟨7, 6⟩, .other, 0, 11000000000, .unreadable⟩, e3⟩
    Poller.run 6000000000 none ((xs ++ [last]).map IterIn.it) = [.nr, .data (trk 0) 0 ⟨6, 6⟩, .nrGrace] ∧
    (pollRunInputs none (Poller.init 6000000000) (xs ++ [last])).length = 15 ∧
    (pollRun none (Poller.init 6000000000) (xs ++ [last])).isSome = true ∧
    e1.isAbort = false ∧ e2.isAbort = false ∧ e3.isAbort = true ∧ e3.sleepNs = 1000000000 ∧
    C13.Monotone 6000000000 none ((xs ++ [last]).map IterIn.it) := by
  refine ⟨by decide, by decide, by decide, by decide, by decide, by decide, rfl, ?_⟩
  unfold C13.Monotone; decide

/-- the oracles are not trivially true of a log: the C12 oracle rejects an iteration whose observation log has
    the query before the read, the C13 oracle an in-grace message at start-up -/
example : C12d.HoldsIter ⟨12, 500⟩ (obsLogOf [evQuery (.enumv "RequestBody::Tracking" []) (.ext "ClientOptions" []) .unit,
    evClockRead (clockId 6) (okTimespec ⟨12, 500⟩)]) .nr = false := by decide
example : C13.Holds 0 none [⟨⟨1, 0⟩, .none, 0, 5, .unreadable⟩] [.nrGrace] = false := by decide

end ClockBound.OnCode

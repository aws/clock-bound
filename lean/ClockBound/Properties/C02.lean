/-
  C02 — A snapshot is never a mixture of two published records.
  For every interleaving of the writer's and the reader's individual accesses, every crash/restart
  of the writer, every admissible (stale) load result of the release/acquire memory, and every
  annotation of the real code that is `adequate`.
-/
import ClockBound.Model.SeqlockSys
import ClockBound.Proofs.Seqlock
namespace ClockBound.C02
open ClockBound ClockBound.SL

/-- the set a returned record must belong to -/
def Good (cells0 : List Nat) (s : Sys) (c : List Nat) : Prop :=
  c = zerosN ∨ c = cells0 ∨ c ∈ s.written

/-- Writer invariant, part 1: in every reachable log, the record in the segment as of any even,
    non-zero generation message is one complete record: the pre-existing one or one passed to `write`. -/
theorem even_generation_is_complete (a : Ann) (ha : a.adequate = true)
    (ver gen : Nat) (cells0 : List Nat) (hc : cells0.length = N) (hg : gen < 65536)
    (s : Sys) (hr : Reachable a (Sys.init ver gen cells0) s)
    (e : Nat) (m : SL.Msg) (hm : s.log[e]? = some m) (hgen : m.loc = .gen) (hev : m.val % 2 = 0) (hnz : m.val ≠ 0) :
    pubCells s.log e = cells0 ∨ pubCells s.log e ∈ s.written :=
  (reachable_inv hc hg hr).log.pub e m hm hgen hev hnz

/-- Reader side, precise form: when a `snapshot` attempt is accepted and fewer than 32767 updates
    completed between the generation message it started from (`g1Idx`) and the message its re-check
    read, the cells it copied are exactly the record as of that generation message. -/
theorem accept_consistent (a : Ann) (ha : a.adequate = true)
    (ver gen : Nat) (cells0 : List Nat) (hc : cells0.length = N) (hg : gen < 65536)
    (s : Sys) (hr : Reachable a (Sys.init ver gen cells0) s)
    (g1 retries : Nat) (got : List (Nat × Nat)) (pm : Nat)
    (hpc : s.r.pc = .gen2 g1 retries got)
    (hacc : (load s.log s.r.view .gen a.rGen2 pm).1 = g1)
    (hnowrap : evenGenBetween s.log s.r.g1Idx (load s.log s.r.view .gen a.rGen2 pm).2.1 < 32767) :
    assemble got = pubCells s.log s.r.g1Idx ∧
    (∃ m, s.log[s.r.g1Idx]? = some m ∧ m.loc = .gen ∧ m.val = g1 ∧ g1 % 2 = 0 ∧ g1 ≠ 0) := by
  have hI := reachable_inv hc hg hr
  exact accept_core hI.log ha (hI.rd ha) hpc pm hacc hnowrap

/-- C02 for histories with fewer than 32767 completed updates (no 16-bit wrap can bite): every record
    ever returned is the empty initial record, the pre-existing record or one passed to `write`. -/
theorem no_mixture (a : Ann) (ha : a.adequate = true)
    (ver gen : Nat) (cells0 : List Nat) (hc : cells0.length = N) (hg : gen < 65536)
    (s : Sys) (hr : Reachable a (Sys.init ver gen cells0) s)
    (hnowrap : completedUpdates s.log < 32767) :
    ∀ c ∈ s.returned, Good cells0 s c :=
  (reachable_cinv_few hc hg ha hr hnowrap).ret

/-- C02 in general: as long as every accepted attempt had fewer than 32767 completed updates between
    its two generation reads (stated as a hypothesis on every reachable predecessor state). -/
theorem no_mixture_general (a : Ann) (ha : a.adequate = true)
    (ver gen : Nat) (cells0 : List Nat) (hc : cells0.length = N) (hg : gen < 65536)
    (s : Sys) (hr : Reachable a (Sys.init ver gen cells0) s)
    (hnowrap : ∀ t, Reachable a (Sys.init ver gen cells0) t → ∀ g1 retries got pm,
        t.r.pc = .gen2 g1 retries got → (load t.log t.r.view .gen a.rGen2 pm).1 = g1 →
        evenGenBetween t.log t.r.g1Idx (load t.log t.r.view .gen a.rGen2 pm).2.1 < 32767) :
    ∀ c ∈ s.returned, Good cells0 s c :=
  (reachable_cinv hc hg ha hr fun t ht _ => hnowrap t ht).ret

/-- the unfenced code (the tree before the repair) is NOT adequate, and neither is a relaxed re-check -/
example : ({ wFence := none, rFence := none } : Ann).adequate = false := by decide
example : ({ rGen2 := .relaxed } : Ann).adequate = false := by decide
example : ({} : Ann).adequate = true := by decide
example : ({ wStore1 := .relaxed, rVersion := .relaxed, wLoad := .relaxed } : Ann).adequate = true := by decide

end ClockBound.C02

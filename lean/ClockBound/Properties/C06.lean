/-
  C06 — Client never reports a status stronger than the record's age justifies.
-/
import ClockBound.Model.Oracles
import ClockBound.Proofs.Client
namespace ClockBound.C06
open ClockBound

/-- total characterisation of the reported status, all three stored statuses, all readings -/
theorem status_char (x : ClientIn) (h : x.meaningful = true) (e l : TimeSpec) (st : Status)
    (hout : computeBoundAt x.r x.real x.mono = .ok e l st) : st = expected x := by
  exact (ok_closed x (meaningful_spec h) e l st hout).2.2.1

/-- Synchronized only if stored Synchronized and younger than the 5 s grace period -/
theorem synchronized_only_if (x : ClientIn) (h : x.meaningful = true) (e l : TimeSpec)
    (hout : computeBoundAt x.r x.real x.mono = .ok e l .synchronized) :
    x.r.status = .synchronized ∧ x.mono.toNs < x.r.asOf.toNs + 5000000000 := by
  have hs := status_char x h e l _ hout
  rw [expected_eq] at hs
  split_ifs at hs with _ hf
  exact ⟨hs.symm, hf⟩

/-- FreeRunning only if stored Synchronized or FreeRunning and void-after not passed -/
theorem freeRunning_only_if (x : ClientIn) (h : applicable x = true) (e l : TimeSpec)
    (hout : computeBoundAt x.r x.real x.mono = .ok e l .freeRunning) :
    (x.r.status = .synchronized ∨ x.r.status = .freeRunning) ∧ x.mono.toNs < x.r.voidAfter.toNs := by
  simp only [applicable, Bool.and_eq_true, decide_eq_true_eq] at h
  obtain ⟨hm, hv⟩ := h
  have hs := status_char x hm e l _ hout
  rw [expected_eq] at hs
  split_ifs at hs with hu hf hva
  · exact ⟨.inr hs.symm, by omega⟩
  · refine ⟨?_, hva⟩
    cases hst : x.r.status
    · exact absurd hst hu
    · exact .inl rfl
    · exact .inr rfl

/-- a record marked Unknown, or one older than void-after, always yields Unknown -/
theorem unknown_always (x : ClientIn) (h : applicable x = true) (e l : TimeSpec) (st : Status)
    (hout : computeBoundAt x.r x.real x.mono = .ok e l st)
    (hu : x.r.status = .unknown ∨ x.r.voidAfter.toNs ≤ x.mono.toNs) : st = .unknown := by
  simp only [applicable, Bool.and_eq_true, decide_eq_true_eq] at h
  obtain ⟨hm, hv⟩ := h
  rw [status_char x hm e l st hout, expected_eq]
  rcases hu with hu | hu
  · rw [if_pos hu]
  · have h1 : ¬ x.mono.toNs < x.r.asOf.toNs + 5000000000 := by omega
    have h2 : ¬ x.mono.toNs < x.r.voidAfter.toNs := by omega
    rw [if_neg h1, if_neg h2, ite_self]

/-- a fresh record's status is passed through unchanged -/
theorem fresh_passthrough (x : ClientIn) (h : x.meaningful = true) (e l : TimeSpec) (st : Status)
    (hout : computeBoundAt x.r x.real x.mono = .ok e l st)
    (hf : x.mono.toNs < x.r.asOf.toNs + 5000000000) : st = x.r.status := by
  rw [status_char x h e l st hout, expected_eq, if_pos hf]
  split_ifs with hu
  · exact hu.symm
  · rfl

/-- every daemon-written record (void-after = (as-of.sec + 1000, 0)) satisfies C06's hypothesis -/
theorem daemon_record_applicable (asOf : TimeSpec) (h : asOf.normalized) :
    asOf.toNs + 5000000000 ≤ (⟨asOf.sec + 1000, 0⟩ : TimeSpec).toNs := by
  unfold TimeSpec.normalized at h
  unfold TimeSpec.toNs
  unfold NANOS at *
  simp only []
  omega

theorem model_holds (x : ClientIn) : Holds x (computeBoundAt x.r x.real x.mono) = true := by
  refine holds_of_applicable fun h => ?_
  cases hout : computeBoundAt x.r x.real x.mono with
  | ok e l st =>
    simp only []
    rw [status_char x (Bool.and_eq_true_iff.1 h).1 e l st hout]
    cases expected x <;> rfl
  | _ => rfl

example : applicable ⟨⟨⟨5,0⟩,⟨1005,0⟩,10000,50000,0,.synchronized⟩,⟨1700000000,7⟩,⟨10,0⟩⟩ = true := by decide
example : computeBoundAt ⟨⟨5,0⟩,⟨1005,0⟩,10000,50000,0,.synchronized⟩ ⟨1700000000,7⟩ ⟨9,999999999⟩
    = .ok ⟨1699999999,999740008⟩ ⟨1700000000,260006⟩ .synchronized := by decide +kernel
  -- (age = 4999999999 ns: 4.999999999 s · 50000 ppb = 249999.99995, truncated to 249999, so the
  --  half-width is 259999 ns, not 260000)
example : computeBoundAt ⟨⟨5,0⟩,⟨1005,0⟩,10000,50000,0,.synchronized⟩ ⟨1700000000,7⟩ ⟨10,0⟩
    = .ok ⟨1699999999,999740007⟩ ⟨1700000000,260007⟩ .freeRunning := by decide +kernel

end ClockBound.C06

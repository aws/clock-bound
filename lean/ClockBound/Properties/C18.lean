/-
  C18 — Reading never blocks on, or spins forever because of, the daemon.
  Statements about the reader machine alone: they hold for EVERY log (any writer behaviour, stopped
  for ever at any point or updating continuously) and every choice of load results.
-/
import ClockBound.Model.SeqlockSys
import ClockBound.Proofs.SeqlockReader
namespace ClockBound.C18
open ClockBound ClockBound.SL ClockBound.SLR

/-- remaining work of a `snapshot()` call -/
def mu : RPc → Nat
  | .idle => 0
  | .version => 2 + RETRIES * (N + 2)
  | .gen1 => 1 + RETRIES * (N + 2)
  | .copy _ retries todo _ => (retries - 1) * (N + 2) + todo.length + 2
  | .fence _ retries _ => (retries - 1) * (N + 2) + 2
  | .gen2 _ retries _ => (retries - 1) * (N + 2) + 1

/-- reader states a call can reach: a non-empty to-do list and a positive retry budget while copying -/
def WF : RPc → Prop
  | .copy _ retries todo _ => 0 < retries ∧ 0 < todo.length ∧ todo.length ≤ N ∧ retries ≤ RETRIES
  | .fence _ retries _ => 0 < retries ∧ retries ≤ RETRIES
  | .gen2 _ retries _ => 0 < retries ∧ retries ≤ RETRIES
  | _ => True

/-- every shared access either ends the call or strictly decreases the measure — whatever the log
    contains and whatever the load returns -/
theorem step_decreases (a : Ann) (log : Log) (r : Reader) (pc pm : Nat) (h : r.pc ≠ .idle) (hwf : WF r.pc) :
    let out := rStep a log r pc pm
    WF out.1.pc ∧ ((out.2.1.isSome ∧ out.1.pc = .idle) ∨ (out.2.1 = none ∧ mu out.1.pc < mu r.pc)) := by
  intro out
  obtain ⟨rpc, view, cg, cache, gi, ai⟩ := r
  cases rpc with
  | idle => exact absurd rfl h
  | version | gen1 =>
    simp only [out, rStep]
    split <;> simp [WF, mu, RETRIES, N]
  | copy g1 k todo got =>
    obtain ⟨hk, hl, hn, hr⟩ := hwf
    have hidx : min pc (todo.length - 1) < todo.length := by omega
    have hc := filter_ne_length_lt todo _ (List.getElem_mem hidx)
    simp only [out, rStep, List.getElem?_eq_getElem hidx]
    generalize todo[min pc (todo.length - 1)] = c at hc ⊢
    generalize (c, (load log view (Loc.cell c) Ord.relaxed pm).1) :: got = got'
    split
    · rcases afterCopy_cases a g1 k got' with e | e <;> rw [e] <;> simp [WF, mu, hk, hr] <;> omega
    · next hne =>
      have : 0 < (todo.filter (· != c)).length := List.length_pos_iff.2 (by simpa using hne)
      exact ⟨⟨hk, this, by omega, hr⟩, Or.inr ⟨trivial, by simp only [mu]; omega⟩⟩
  | fence g1 k got => simpa [out, rStep, WF, mu] using hwf
  | gen2 g1 k got =>
    obtain ⟨hk, hr⟩ := hwf
    simp only [out, rStep]
    split
    · simp [WF]
    · split <;> simp [WF, mu, N]
      omega

theorem call_wf (r : Reader) : WF r.call.pc ∧ mu r.call.pc = stepBound :=
  ⟨trivial, rfl⟩

/-- a `snapshot()` call returns after at most `stepBound` shared accesses, against any sequence of
    logs (the writer may do anything between the reader's accesses) and any picks -/
theorem bounded (a : Ann) (logs : Nat → Log) (picks : Nat → Nat × Nat) (r : Reader) :
    ∃ n, n ≤ stepBound ∧ n ≥ 1 ∧
      ((List.range n).foldl (fun (st : Reader × Option RResult) k =>
          if st.2.isSome then st else
          let out := rStep a (logs k) st.1 (picks k).1 (picks k).2
          (out.1, out.2.1)) (r.call, none)).2.isSome := by
  refine ⟨stepBound, Nat.le_refl _, by decide, ?_⟩
  refine run_bounded (mu := mu) (WF := WF) ?_ (step_decreases a) logs picks _ _
    (Or.inr ⟨by simp [Reader.call], trivial, by simp [Reader.call, mu, stepBound]⟩)
  intro p hp hw
  cases p <;> simp [mu] at * <;> omega

/-- if an update is in flight (odd generation), or the segment is being re-initialised
    (generation or version 0), the call answers from its previous snapshot after at most two loads -/
theorem in_flight_answers_from_cache (a : Ann) (log : Log) (r : Reader) (pm : Nat) (hpc : r.pc = .gen1)
    (h : (load log r.view .gen a.rGen1 pm).1 % 2 = 1 ∨ (load log r.view .gen a.rGen1 pm).1 = 0) :
    (rStep a log r 0 pm).2.1 = some (.ok r.cache) := by
  simp only [rStep, hpc]
  rw [if_pos (h.elim (fun h => .inr (.inr h)) .inl)]

theorem version_zero_answers_from_cache (a : Ann) (log : Log) (r : Reader) (pm : Nat) (hpc : r.pc = .version)
    (h : (load log r.view .version a.rVersion pm).1 = 0) :
    (rStep a log r 0 pm).2.1 = some (.ok r.cache) := by
  simp only [rStep, hpc, h, if_true]

/-- the budget is what the code says: one million attempts -/
example : RETRIES = 1000000 ∧ stepBound = 9000002 := by decide

end ClockBound.C18

/-
  C11 — Generation field obeys the documented protocol in every reachable state.
-/
import ClockBound.Model.OraclesD
import ClockBound.Proofs.Gen
namespace ClockBound.C11
open ClockBound

theorem start_odd (g : Nat) (h : g < 65536) : genStart g % 2 = 1 ∧ genStart g < 65536 :=
  ⟨genStart_odd g, genStart_lt g h⟩

theorem start_even (g : Nat) (h : g < 65536) (he : g % 2 = 0) : genStart g = g + 1 := by
  rw [genStart_of_even g he]
  omega

theorem start_odd_keeps (g : Nat) (ho : g % 2 = 1) : genStart g = g := genStart_of_odd g ho

/-- after a completed update: even, non-zero, different from before, below 2^16 -/
theorem finish_props (g : Nat) (h : g < 65536) :
    genFinish (genStart g) % 2 = 0 ∧ genFinish (genStart g) ≠ 0 ∧ genFinish (genStart g) ≠ g ∧
    genFinish (genStart g) < 65536 := by
  have _ := h   -- not needed: the four hold for every `g`
  exact ⟨genFinish_even _ (genStart_odd g), genFinish_ne_zero _, genFinish_genStart_ne_self g, genFinish_lt _⟩

theorem wrap : genFinish 65535 = 2 ∧ genFinish (genStart 65534) = 2 := by
  constructor <;> decide

theorem model_holds (g : Nat) (h : g < 65536) :
    Holds g (genStart g) (genFinish (genStart g)) = true := by
  have := finish_props g h
  have := start_odd g h
  have := start_even g h
  have := start_odd_keeps g
  have := genFinish_eq (genStart g)
  unfold Holds
  grind

/-- the invariant of `history_invariant`, as a predicate on states; it is inductive -/
def Inv (s : GState) : Prop :=
  s.g < 65536 ∧
  (s.mid = true → s.g % 2 = 1) ∧
  (s.stale = true → s.g % 2 = 1 ∧ s.mid = false) ∧
  (s.mid = false → s.stale = false → s.finishes > 0 → s.g % 2 = 0 ∧ s.g ≠ 0) ∧
  (s.stores > 0 → s.g ≠ 0)

theorem Inv.step {s : GState} (h : Inv s) (e : GEv) : Inv (s.step e) := by
  have ⟨h1, h2, _, _, h5⟩ := h
  cases e <;> cases hm : s.mid <;> simp only [GState.step, hm, Bool.false_eq_true, if_false, if_true]
  · exact ⟨genStart_lt _ h1, fun _ => genStart_odd _, nofun, nofun, fun _ => genStart_ne_zero _⟩
  · exact h
  · exact h
  · have hf := genFinish_even _ (h2 hm)
    exact ⟨genFinish_lt _, nofun, nofun, fun _ _ _ => ⟨hf, genFinish_ne_zero _⟩, fun _ => genFinish_ne_zero _⟩
  · exact h
  · exact ⟨h1, nofun, fun _ => ⟨h2 hm, rfl⟩, fun _ => nofun, h5⟩

/-- invariant over every history of completed and interrupted updates, from any start value -/
theorem history_invariant (g0 : Nat) (h0 : g0 < 65536) (evs : List GEv) :
    let s := GState.run g0 evs
    s.g < 65536 ∧
    (s.mid = true → s.g % 2 = 1) ∧
    (s.stale = true → s.g % 2 = 1 ∧ s.mid = false) ∧
    (s.mid = false → s.stale = false → s.finishes > 0 → s.g % 2 = 0 ∧ s.g ≠ 0) ∧
    (s.stores > 0 → s.g ≠ 0) := by
  have run : ∀ s, Inv s → Inv (evs.foldl GState.step s) := by
    induction evs with
    | nil => exact fun _ h => h
    | cons e es ih => exact fun s h => ih _ (h.step e)
  exact run _ ⟨h0, nofun, nofun, nofun, nofun⟩

/-- each completed update changes the generation -/
theorem update_changes (s : GState) (h : s.g < 65536) (hm : s.mid = false) :
    ((s.step .start).step .finish).g ≠ s.g := by
  simp only [GState.step, hm, Bool.false_eq_true, if_false, if_true]
  exact (finish_props s.g h).2.2.1

example : (GState.run 65534 [.start, .crash, .start, .finish]).g = 2 := by decide

end ClockBound.C11

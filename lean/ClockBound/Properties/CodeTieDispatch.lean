/-
  Translation tie, group `Poller`, part `Dispatch`: the writer thread's loop `process_messages`
  (clock-bound-d/src/shm_writer.rs), with `ShmUpdater::process_clock_update` /
  `process_missing_clock_update` (and what they call) inlined by the interpreter from the same table.

  `process_messages_eq`: for ALL lists `ms` of messages the mailbox delivers before `Message::ThreadAbort`
  (`WMsg`: `ClockErrorBoundData((tracking, phc, as_of))`, the four "missing" messages, or ANY other variant of
  `Message` with any payload — `ThreadTerminate`, `ThreadPanic`, ..), every updater state, every input stream
  that provides `Ok(m)` for these messages and then `Ok(ThreadAbort)` (`inputsAt`), every fuel
  `≥ ms.length + 110`: the regenerated `process_messages`, run with the dictionary `Rs/DictPoller.lean`, logs
  exactly the model's `writerRun`: per message the `recv`, and — for a message the updater acts on — the
  record `Updater.step` publishes through `ShmWrite::write` (ClockErrorBoundData ↦ `.data`,
  ChronyNotRespondingGracePeriod / PhcErrorBoundRetrievalFailedGracePeriod ↦ `.missing true`, ChronyNotResponding /
  PhcErrorBoundRetrievalFailed ↦ `.missing false`; other messages are ignored), then the `recv` of
  `ThreadAbort`, which ends the loop; it returns `()`.  Where `Updater.step` says panic (`none`) the thread
  panics.  `records_eq`: the records among the log entries are `Updater.run` over the mapped messages.
  `iteration_eq`: the same for ONE TURN of the loop (`Rs.findLoop`, `Rs.turnIs`: however the loop is written) from any
  loop-top state (what the loop proof uses).

  All messages of a run are handled at the same CLOCK_REALTIME reading `nowNs` (`ref_time.elapsed()` is the
  core's `Ctx.nowNs`, a constant of the run): `Updater.run` over messages with different `nowNs` is covered
  message by message by `iteration_eq` (any `nowNs` per iteration), not by `process_messages_eq`.

  The handlers: `CodeTieUpdater.process_clock_update_eq` / `process_missing_eq` are statements about
  `run (Code.ctx nowNs)` (fuel 200, no dictionary); inside the loop the same calls run with less fuel and
  with this group's dictionary.  Both rest on ONE equation about the call of each handler, proved for every
  fuel from the handler's depth on, every state and every dictionary that only adds rules (`Ext.Conservative`;
  `UpdaterProof.call_data`, `call_missing`, `Proofs/RsUpdater.lean`): the proof of the iteration rewrites the call
  with it (`Proofs/RsDispatch.lean`), so the right-hand side is the same `Updater.step`.

  NOT covered: `shm_writer::run` (= `ShmWriter::new(path)` — mmap, ftruncate, file I/O of writer.rs —, then
  `ShmUpdater::new` (`CodeTieUpdater.new_eq`) and `process_messages`): `ShmWriter::new` is in the function
  table, so the interpreter inlines it, and its body is outside the fragment of this dictionary.
-/
import ClockBound.Proofs.RsDispatchLoop
namespace ClockBound.CodeTieDispatch
open ClockBound ClockBound.Rs ClockBound.Generated ClockBound.Rs.DictPoller

/-- the context of the group (`CodeTieNow.clock_ids_eq`) -/
abbrev ctxP (nowNs : Int) (inp : Nat → Value) : Ctx :=
  Code.ctxWith nowNs (DictPoller.ext (linuxUses Code.consts)) [] inp

/-- frame of `process_messages` -/
abbrev frW : Frame := ⟨"shm_writer", "", "()"⟩

open scoped ClockBound.Rs.CallByValue

theorem process_messages_eq (nowNs : Int) (inp : Nat → Value) (ms : List WMsg) (hwf : ∀ m ∈ ms, m.wf = true)
    (u : Updater) (hin : inputsAt inp 0 (ms.map WMsg.recvd ++ [recvAbort])) (F : Nat) (hF : ms.length + 110 ≤ F) :
    runFuel F (ctxP nowNs inp) "shm_writer::process_messages" .unit
      [contextValue "ChannelId::ShmWriter", updaterValue u]
    = match writerRun nowNs u ms with
      | none => .panic
      | some (_, l) => .ok .unit .unit (l ++ [evRecv recvAbort]) := by
  obtain ⟨J, rfl⟩ : ∃ J, F = J + 8 := ⟨F - 8, by omega⟩
  obtain ⟨pre, c, body, hfl⟩ : ∃ pre c body,
      findLoop Code.fn_shm_writer__process_messages_stmts = some (pre, c, body) := by
    simp only [rs_eval, rs_base, rs_code]
  -- the loop, with whatever fuel the function leaves it
  have L := fun k => DispatchProof.loop nowNs inp pre c body hfl ms hwf u [] 0 hin (J + k) (by omega)
  simp only [rs_eval, rs_base, rs_code] at hfl
  obtain ⟨rfl, rfl, rfl⟩ := hfl
  simp only [ctxP, NowProof.ctxP, DispatchProof.topW, NowProof.linuxUses_eq, writerArgs, contextValue, updaterValue,
    ctimespecValue, DictPoller.ext, dispatchBox, receiver, clockId] at L ⊢
  simp -implicitDefEqProofs only [rs_eval, rs_base, rs_code] at L ⊢
  generalize hW : evalWhile _ _ _ _ _ _ = W
  have h : DispatchProof.LoopIs W [] 0 ms.length (writerRun nowNs u ms) := by
    rw [← hW]
    exact L _
  generalize writerRun nowNs u ms = R at h ⊢
  rcases R with _ | ⟨u', l⟩
  · obtain rfl : W = .panic := h
    simp only [rs_eval, rs_base, rs_code]
  · obtain ⟨st, rfl, h1, -, h3⟩ := h
    simp only [rs_eval, rs_base, rs_code, h1, h3]

/-- the records written are `Updater.run` over the mapped messages (when no step panics) -/
theorem records_eq (nowNs : Int) (ms : List WMsg) (u u' : Updater) (l : List Value)
    (h : writerRun nowNs u ms = some (u', l)) :
    (l ++ [evRecv recvAbort]).filter isRecordValue
    = (Updater.run u (ms.filterMap (WMsg.toMsg nowNs))).map recordValue := by
  rw [List.filter_append, DispatchProof.writerRun_records nowNs ms u u' l h]
  simp [isRecordValue, evRecv]

/-- the state at the top of the loop of `process_messages` (however the loop is written) with updater state `u`:
    computed by the interpreter from the arguments and the statements `pre` before the loop (`Rs.topSt`) -/
abbrev topW (nowNs : Int) (inp : Nat → Value) (pre : List Stmt) (u : Updater) (log : List Value) (pos : Nat) : St :=
  topSt (ctxP nowNs inp) Code.fn_shm_writer__process_messages (writerArgs u) pre log pos

/-- ONE TURN of the loop (`Rs.findLoop`: a `while` or a `loop`) on the message `m`, from any top state, for every fuel
    `K ≥ 100`: a message without handler is only received; a message the updater acts on publishes the record of
    `Updater.step` (or panics where the model says so); in all these cases the loop goes on from the top state with
    the new updater state -/
theorem iteration_eq (nowNs : Int) (u : Updater) (m : WMsg) (hwf : m.wf = true) (inp : Nat → Value)
    (log : List Value) (pos : Nat) (pre : List Stmt) (c : Expr) (body : List Stmt)
    (hfl : findLoop Code.fn_shm_writer__process_messages.body = some (pre, c, body))
    (hin : inp pos = m.recvd) (K : Nat) (hK : 100 ≤ K) :
    turnIs (ctxP nowNs inp) frW c body K
      (evalWhile (K + 2) (ctxP nowNs inp) frW c body (topW nowNs inp pre u log pos))
      (match m.toMsg nowNs with
       | none => .next (topW nowNs inp pre u (log ++ [evRecv m.recvd]) (pos + 1))
       | some msg =>
         match u.step msg with
         | none => .panic
         | some (u', r) => .next (topW nowNs inp pre u' (log ++ [evRecv m.recvd, recordValue r]) (pos + 1))) :=
  DispatchProof.disp_iter nowNs u m hwf inp log pos pre c body hfl hin K hK

/-- `Ok(Message::ThreadAbort)` ends the loop and writes nothing -/
theorem iteration_abort (nowNs : Int) (u : Updater) (inp : Nat → Value) (log : List Value) (pos : Nat)
    (pre : List Stmt) (c : Expr) (body : List Stmt)
    (hfl : findLoop Code.fn_shm_writer__process_messages.body = some (pre, c, body))
    (hin : inp pos = recvAbort) (K : Nat) (hK : 100 ≤ K) :
    turnIs (ctxP nowNs inp) frW c body K
      (evalWhile (K + 2) (ctxP nowNs inp) frW c body (topW nowNs inp pre u log pos))
      (.done (log ++ [evRecv recvAbort]) (pos + 1)) :=
  DispatchProof.disp_abort nowNs u inp log pos pre c body hfl hin K hK

/-- non-vacuity: three messages (a missing one, one without handler, a missing one) on a fresh updater: two
    records, the first FreeRunning-class input on an updater without measurement publishes Unknown -/
example : (writerRun 0 (Updater.new 1000) [.nrGrace, .ignored "Message::ThreadPanic" [], .nr]).isSome = true ∧
    ((Updater.run (Updater.new 1000) ([WMsg.nrGrace, .ignored "Message::ThreadPanic" [], .nr].filterMap (WMsg.toMsg 0))).length = 2) ∧
    WMsg.wf (.ignored "Message::ThreadPanic" []) = true := by
  decide

end ClockBound.CodeTieDispatch

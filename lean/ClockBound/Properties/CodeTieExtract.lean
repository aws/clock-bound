/-
  Translation tie, part 3: `extract_bound_from_tracking` (clock-bound-d/src/shm_writer.rs).

  For every chrony tracking reply and every reading `nowNs` of CLOCK_REALTIME, the AST regenerated
  from the Rust source, run by the interpreter, returns the pair
  `(boundF t as i64, classify t nowNs as ChronyClockStatus)` of the hand-written model, never panics
  and never gets stuck.  (This function calls `ChronyClockStatus::from`, which the interpreter inlines
  from the same table.)

  No range hypothesis is needed (the wire words are reduced modulo 2^32 by `F64.chronyFloat` itself).
-/
import ClockBound.Proofs.RsExtract
namespace ClockBound.CodeTieExtract
open ClockBound ClockBound.Rs ClockBound.Generated

theorem extract_eq (t : Tracking) (nowNs : Int) :
    run (Code.ctx nowNs) "shm_writer::extract_bound_from_tracking" .unit [trackingValue t]
    = .ok (.tuple [.int .i64 (boundF t), chronyValue (classify t nowNs)]) .unit [] :=
  run_of_call (by simp only [rs_eval, rs_base, rs_code])
    (ExtractProof.call_extract t nowNs Ext.none [] _ Ext.none_conservative 160 _)

/-- the ranges the Rust types force (not needed above) -/
def Tracking.inRange (t : Tracking) : Bool :=
  decide (t.leap < 65536) && decide (t.offW < 4294967296) && decide (t.dispW < 4294967296) &&
  decide (t.delayW < 4294967296) && decide (t.intervalW < 4294967296) && decide (t.refid < 4294967296)

example : Tracking.inRange ⟨0, 1700000000000000000, 0xee562947, 0x0893362c, 0x026bb816, 0x0e000000, 0⟩ = true := by
  decide

end ClockBound.CodeTieExtract

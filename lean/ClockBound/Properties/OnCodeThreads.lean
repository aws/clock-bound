/-
  C15 (one dead worker stops the daemon) stated ABOUT THE SOURCE (see `OnCodeClient.lean` for the reading): each
  theorem mentions the regenerated AST `Generated.Code` run by the interpreter (`Rs.run` / `runFuel`, dictionary
  `Rs/DictThreads.lean`: every channel / thread operation is an event whose result is the next input) and the thread
  model of C15 (`Model/Threads.lean`: `stepMain`, `stepPoller`, `stepWriter`, `step`; `Model/ThreadsProg.lean`: the
  same threads as programs over operations, `mainDo` / `mainNext` … being DEFINED by those step functions).  The
  closed forms (`mainProg`, `pollerProg`, `writerProg`) occur as existential witnesses: "the operations the code
  performs, read as model operations, are SOME program `p`, and `p` drives the model thread from its first program
  counter to its last".

  What is composed (tie ∘ closed form ∘ step functions), per thread, for WHOLE runs (the ties already lift the
  per-iteration facts over any number of iterations by `evalWhile_skip`):
  * `C15_drop_reports_*`   — `Drop for Context::drop` IS the model's step `exiting k → dropping`: one send of
    `notice w k` to main, `k = panic` iff `panicking()`;
  * `C15_main_stops_everything` — `thread_manager::run`: once a worker's notice is received, whatever was received
    before and whatever the sends return: Abort to both workers, both joins, return; as steps of `stepMain` / `step`
    from `MainPc.loop` this ends in `returned` with Abort queued for every worker whose receiver still exists
    (the conclusion of `C15.abort_broadcast`);
  * `C15_main_code_within_model`, `C15_main_model_within_code` — the operation sequences of the interpreted main thread
    and those the model's main thread accepts are THE SAME prefix-closed set (the two inclusions);
  * `C15_main_in_every_schedule` — in every execution of the thread system (all schedules, all fault points) what main
    has done so far is a prefix of what the interpreted `run` does; `C15_exits_after_death` puts C15's headline
    (`exits_after_death_bound`) next to it;
  * `C15_poller_thread_ends`, `C15_writer_thread_ends`, `C15_writer_open_failure` — the two workers from their entry
    functions: they leave only by Abort (the function returns: the model's `exiting terminate`) or by the failure the
    model has (`exiting panic`), and until then go round their loops.

  NOT composed (reported): C15's headline `exits_after_death_bound` quantifies over interleavings (`Threads.step`
  schedules, rounds); the interpreter is big-step per thread function against an input stream and has no
  interleaving semantics, so "the system of the four interpreted functions" is not an object of this development.
  What is proved is that each thread of `Threads.step` has the control flow of the corresponding interpreted function
  (main: equality of behaviours; workers and drop: every complete run of the code is a run of the model thread).
-/
import ClockBound.Proofs.OnCodeThreads
import ClockBound.Properties.C15
namespace ClockBound.OnCode
open ClockBound ClockBound.Rs ClockBound.Generated ClockBound.Rs.DictThreads ClockBound.Rs.EmbedThreads
open ClockBound.Rs.EmbedWorkers ClockBound.Threads ClockBound.ThreadsProg ClockBound.Rs.ThreadsProof
open ClockBound.CodeTieThreads ClockBound.OnCodeProof

/-- how a thread function that ended is dropped: unwinding from a panic, or normally -/
def kindOf (panicking : Bool) : Kind := if panicking = true then .panic else .terminate

/-! ### `Drop for Context::drop` -/

/-- **C15 on the source, the death notice (poller)**: the interpreted `Context::drop` of the poller's context sends
    exactly one message, to main's channel: the notice the model's `exiting k` step queues (`k = panic` iff
    `panicking()`), whether or not the send succeeds; it returns and leaves the context as it was -/
theorem C15_drop_reports_poller (ks : List Thread) (p ok : Bool) (nowNs : Int) (inp : Nat → Value)
    (h0 : inp 0 = .bool p) (h1 : inp 1 = sendResult ok (noticeOf .poller p).value) :
    ∃ (m : RMsg),
      run (Code.ctxWith nowNs DictThreads.ext [] inp) "Drop for Context::drop" (contextValue .poller ks) []
        = .ok .unit (contextValue .poller ks)
            [evPanicking (.bool p), evSend (chanValue .main) m.value (sendResult ok m.value)] ∧
      m.abs = some (.notice .poller (kindOf p)) ∧
      ∀ s : State, s.p = .exiting (kindOf p) →
        stepPoller s = some { s with p := .dropping, qM := sendTo s.m.rxAlive s.qM (.notice .poller (kindOf p)) } := by
  refine ⟨noticeOf .poller p, drop_eq .poller ks p ok nowNs inp h0 h1, ?_, fun s hs => ?_⟩
  · cases p <;> rfl
  · exact (ThreadsProgProps.drop_step_poller s _ hs).1

theorem C15_drop_reports_writer (ks : List Thread) (p ok : Bool) (nowNs : Int) (inp : Nat → Value)
    (h0 : inp 0 = .bool p) (h1 : inp 1 = sendResult ok (noticeOf .writer p).value) :
    ∃ (m : RMsg),
      run (Code.ctxWith nowNs DictThreads.ext [] inp) "Drop for Context::drop" (contextValue .writer ks) []
        = .ok .unit (contextValue .writer ks)
            [evPanicking (.bool p), evSend (chanValue .main) m.value (sendResult ok m.value)] ∧
      m.abs = some (.notice .writer (kindOf p)) ∧
      ∀ s : State, s.w = .exiting (kindOf p) →
        stepWriter s = some { s with w := .dropping, qM := sendTo s.m.rxAlive s.qM (.notice .writer (kindOf p)) } := by
  refine ⟨noticeOf .writer p, drop_eq .writer ks p ok nowNs inp h0 h1, ?_, fun s hs => ?_⟩
  · cases p <;> rfl
  · exact (ThreadsProgProps.drop_step_writer s _ hs).1

example : inputsAt (fun i => if i = 0 then Value.bool true else sendResult false (noticeOf .poller true).value) 0
    [.bool true, sendResult false (noticeOf .poller true).value] := ⟨rfl, rfl, trivial⟩

/-! ### `thread_manager::run` -/

/-- the input streams of the main thread in which `k` messages `pre` that are not notices are received, then `stop`;
    the box iterates in order `ks`; the two sends return `ok1`, `ok2`, the two joins `okP`, `okW` (the shapes the types
    of the operations force; `get_mailbox` finds the three ids that `run` itself registered) -/
structure MainInputs (inp : Nat → Value) (ks : List Thread) (nP nW : String) (k : Nat) (pre : Nat → RMsg)
    (stop : Recv) (ok1 ok2 okP okW : Bool) : Prop where
  order : isOrder ks = true
  web : inp 0 = .tuple [mailboxValue, dispatchValue ks]
  mboxP : inp 1 = .enumv "Some" [rxValue (chanValue .poller)]
  spawnP : inp 2 = handleValue nP
  mboxW : inp 3 = .enumv "Some" [rxValue (chanValue .writer)]
  spawnW : inp 4 = handleValue nW
  mboxM : inp 5 = .enumv "Some" [rxValue (chanValue .main)]
  ignored : ∀ i, i < k → (pre i).isNotice = false
  recvs : ∀ i, i < k → inp (6 + i) = (Recv.ok (pre i)).value
  stops : inp (6 + k) = stop.value
  send1 : inp (6 + k + 1) = sendResult ok1 RMsg.abort.value
  send2 : inp (6 + k + 2) = sendResult ok2 RMsg.abort.value
  joinP : inp (6 + k + 3) = joinResult okP
  joinW : inp (6 + k + 4) = joinResult okW

/-- the tie of the main thread on an admissible stream that ends with a notice, and its log from the loop on read as
    model operations: the program of what it ignored, the notice, and the first worker of the box -/
theorem MainInputs.runs {inp : Nat → Value} {ks : List Thread} {nP nW : String} {k : Nat} {pre : Nat → RMsg} {m : RMsg}
    {ok1 ok2 okP okW : Bool} (hi : MainInputs inp ks nP nW k pre (.ok m) ok1 ok2 okP okW) (hm : m.isNotice = true)
    {n : Threads.Msg} (hn : m.abs = some n) (drift : Nat) (phc : Option (Nat × Value)) (nowNs : Int) (F : Nat) :
    ∃ evs : List MainEv,
      runFuel (F + k + 200) (Code.ctxWith nowNs DictThreads.ext [] inp) "thread_manager::run" .unit
        [.int .u32 drift, phcValue phc]
        = .ok .unit .unit (startEvents ks phc drift nP nW ++ evs.map MainEv.value) ∧
      evs.filterMap MainEv.abs = mainProg (ignoredOf k pre) n (firstWorker ks) :=
  ⟨_, main_eq ks hi.order drift phc nP nW k F pre hi.ignored (.ok m) hm ok1 ok2 okP okW nowNs inp hi.web hi.mboxP
      hi.spawnP hi.mboxW hi.spawnW hi.mboxM hi.recvs hi.stops hi.send1 hi.send2 hi.joinP hi.joinW,
    mainEvs_abs k pre m n hn ks hi.order ok1 ok2 okP okW nP nW⟩

/-- **C15 on the source, the main thread**: fed ANY admissible input stream in which the notice of a worker
    (`ThreadTerminate(w)` / `ThreadPanic(w)`, `m.abs = some n`) arrives after `k` other messages, the interpreted
    `thread_manager::run` returns `()`; the operations it performed from its loop on (`evs`), read as operations of the
    model's main thread, are a program `mainProg ignored n first`, which
    (1) drives the model's control flow from `MainPc.loop` to `returned`, and
    (2) performed step by step with `stepMain` / `step _ (.mainAbort _)` on any model state whose main queue holds
        those messages and whose workers have finished, ends in `returned` with `ThreadAbort` queued for every worker
        whose receiver still exists — whatever the two sends returned (`ok1`, `ok2` are arbitrary) -/
theorem C15_main_stops_everything (inp : Nat → Value) (ks : List Thread) (nP nW : String) (k : Nat)
    (pre : Nat → RMsg) (m : RMsg) (n : Threads.Msg) (ok1 ok2 okP okW : Bool)
    (hi : MainInputs inp ks nP nW k pre (.ok m) ok1 ok2 okP okW) (hm : m.isNotice = true) (hn : m.abs = some n)
    (drift : Nat) (phc : Option (Nat × Value)) (nowNs : Int) (F : Nat) :
    ∃ (evs : List MainEv) (ignored : List Threads.Msg) (first : Worker),
      runFuel (F + k + 200) (Code.ctxWith nowNs DictThreads.ext [] inp) "thread_manager::run" .unit
        [.int .u32 drift, phcValue phc]
        = .ok .unit .unit (startEvents ks phc drift nP nW ++ evs.map MainEv.value) ∧
      evs.filterMap MainEv.abs = mainProg ignored n first ∧
      (∀ x ∈ ignored, x.isNotice = false) ∧ n.isNotice = true ∧
      mainNexts .loop (mainProg ignored n first) = some .returned ∧
      ∀ (s : State) (rest : List Threads.Msg), s.m = .loop → s.qM = ignored ++ n :: rest → s.p = .done → s.w = .done →
        ∃ s', mainRun s (mainProg ignored n first) = some s' ∧ s'.m = .returned ∧
          (s.rxP = true → Msg.abort ∈ s'.qP) ∧ (s.rxW = true → Msg.abort ∈ s'.qW) := by
  have hig := ignoredOf_nonNotice k pre hi.ignored
  have hnn : n.isNotice = true := (abs_isNotice hn).trans hm
  obtain ⟨evs, hrun, habs⟩ := hi.runs hm hn drift phc nowNs F
  refine ⟨_, _, _, hrun, habs, hig, hnn, ThreadsProgProps.main_prog_pcs _ n _ hig hnn, fun s rest hsm hq hp hw => ?_⟩
  refine ⟨_, ThreadsProgProps.main_prog_run s _ rest n _ hsm hq hig hnn hp hw, rfl, ?_, ?_⟩
  · intro h; simp [sendTo, h]
  · intro h; simp [sendTo, h]

/-- non-vacuity: the concrete input stream of `CodeTieThreads.demoInp` (two ignored messages, then the poller's panic
    notice; the first Abort send fails) is admissible -/
example : MainInputs demoInp [.writer, .main, .poller] "h1" "h2" 2
    (fun i => if i = 0 then .abort else .noData .chrony) (.ok (.panic .poller)) false true false true where
  order := by decide
  web := rfl
  mboxP := rfl
  spawnP := rfl
  mboxW := rfl
  spawnW := rfl
  mboxM := rfl
  ignored := by decide
  recvs := fun i hi => by match i, hi with | 0, _ => rfl | 1, _ => rfl
  stops := rfl
  send1 := rfl
  send2 := rfl
  joinP := rfl
  joinW := rfl

/-- for every scenario there IS an admissible input stream -/
def scenarioInp (ks : List Thread) (nP nW : String) (k : Nat) (pre : Nat → RMsg) (stop : Recv)
    (ok1 ok2 okP okW : Bool) (i : Nat) : Value :=
  if i < 6 then
    [.tuple [mailboxValue, dispatchValue ks], .enumv "Some" [rxValue (chanValue .poller)], handleValue nP,
      .enumv "Some" [rxValue (chanValue .writer)], handleValue nW, .enumv "Some" [rxValue (chanValue .main)]].getD i .unit
  else if i < 6 + k then (Recv.ok (pre (i - 6))).value
  else [stop.value, sendResult ok1 RMsg.abort.value, sendResult ok2 RMsg.abort.value, joinResult okP,
    joinResult okW].getD (i - (6 + k)) .unit

theorem scenarioInp_admissible (ks : List Thread) (hks : isOrder ks = true) (nP nW : String) (k : Nat)
    (pre : Nat → RMsg) (hpre : ∀ i, i < k → (pre i).isNotice = false) (stop : Recv) (ok1 ok2 okP okW : Bool) :
    MainInputs (scenarioInp ks nP nW k pre stop ok1 ok2 okP okW) ks nP nW k pre stop ok1 ok2 okP okW := by
  have hend : ∀ d, scenarioInp ks nP nW k pre stop ok1 ok2 okP okW (6 + k + d) =
      [stop.value, sendResult ok1 RMsg.abort.value, sendResult ok2 RMsg.abort.value, joinResult okP,
        joinResult okW].getD d .unit := fun d => by
    rw [scenarioInp, if_neg (by omega), if_neg (by omega), Nat.add_sub_cancel_left]
  exact ⟨hks, rfl, rfl, rfl, rfl, rfl, rfl, hpre,
    fun i hi => by rw [scenarioInp, if_neg (by omega), if_pos (by omega), Nat.add_sub_cancel_left],
    hend 0, hend 1, hend 2, hend 3, hend 4⟩

/-- **C15 on the source, main: the code stays within the model.**  Every operation sequence the interpreted main
    thread can have performed at any moment of a run that receives a worker's notice (every prefix of its operations,
    read as model operations) is accepted by the model's main thread (`mainNext`, i.e. `stepMain` / `mainAbort`) -/
theorem C15_main_code_within_model (inp : Nat → Value) (ks : List Thread) (nP nW : String) (k : Nat)
    (pre : Nat → RMsg) (m : RMsg) (n : Threads.Msg) (ok1 ok2 okP okW : Bool)
    (hi : MainInputs inp ks nP nW k pre (.ok m) ok1 ok2 okP okW) (hm : m.isNotice = true) (hn : m.abs = some n)
    (drift : Nat) (phc : Option (Nat × Value)) (nowNs : Int) (F : Nat) :
    ∃ evs : List MainEv,
      runFuel (F + k + 200) (Code.ctxWith nowNs DictThreads.ext [] inp) "thread_manager::run" .unit
        [.int .u32 drift, phcValue phc]
        = .ok .unit .unit (startEvents ks phc drift nP nW ++ evs.map MainEv.value) ∧
      ∀ ops, ops <+: evs.filterMap MainEv.abs → ∃ pc, mainNexts .loop ops = some pc := by
  obtain ⟨evs, ig, f, hrun, habs, hig, hnn, _, _⟩ :=
    C15_main_stops_everything inp ks nP nW k pre m n ok1 ok2 okP okW hi hm hn drift phc nowNs F
  exact ⟨evs, hrun, fun ops hp => accepts_of_prefix ops ig n f hig hnn (habs ▸ hp)⟩

/-- **C15 on the source, main: the model stays within the code.**  Every operation sequence the model's main thread
    accepts from `MainPc.loop` (every control path of `stepMain` / `mainAbort`, complete or not) is a prefix of the
    operations of the interpreted `thread_manager::run` on SOME admissible input stream: the model's main thread has
    no behaviour the source does not have -/
theorem C15_main_model_within_code (ops : List MainOp) (pc : MainPc) (h : mainNexts .loop ops = some pc)
    (drift : Nat) (phc : Option (Nat × Value)) (nowNs : Int) :
    ∃ (inp : Nat → Value) (ks : List Thread) (k : Nat) (pre : Nat → RMsg) (m : RMsg) (evs : List MainEv),
      MainInputs inp ks "p" "w" k pre (.ok m) true true true true ∧ m.isNotice = true ∧
      runFuel (k + 200) (Code.ctxWith nowNs DictThreads.ext [] inp) "thread_manager::run" .unit
        [.int .u32 drift, phcValue phc]
        = .ok .unit .unit (startEvents ks phc drift "p" "w" ++ evs.map MainEv.value) ∧
      ops <+: evs.filterMap MainEv.abs := by
  obtain ⟨ig, n, f, hig, hn, hp⟩ := prefix_of_accepts ops .loop pc h
  have hmn : (reprMsg n).isNotice = true := (abs_isNotice (reprMsg_abs n)).symm.trans hn
  have hadm := scenarioInp_admissible (orderOf f) (orderOf_isOrder f) "p" "w" ig.length
    (fun j => reprMsg (ig.getD j .data))
    (fun i hi => (abs_isNotice (reprMsg_abs _)).symm.trans (hig _ (by simp [List.getD_eq_getElem?_getD, hi])))
    (.ok (reprMsg n)) true true true true
  obtain ⟨evs, hrun, habs⟩ := hadm.runs hmn (reprMsg_abs n) drift phc nowNs 0
  rw [Nat.zero_add] at hrun
  refine ⟨_, _, _, _, _, _, hadm, hmn, hrun, ?_⟩
  rw [habs, ignoredOf_repr, orderOf_first]
  exact hp

/-- **C15 on the source, main in the thread system.**  In EVERY execution of the thread system of C15 (`Threads.run init
    acts`: every schedule, every fault point of either worker), the operations the main thread has performed so far
    (`mainTrace`: its receives with the messages received, its Abort sends, its joins) are a prefix of the operations of
    the interpreted `thread_manager::run` on some admissible input stream, and its program counter is where that
    operation sequence leads -/
theorem C15_main_in_every_schedule (acts : List Action) (s : State) (h : Threads.run Threads.init acts = some s)
    (drift : Nat) (phc : Option (Nat × Value)) (nowNs : Int) :
    ∃ (inp : Nat → Value) (ks : List Thread) (k : Nat) (pre : Nat → RMsg) (m : RMsg) (evs : List MainEv),
      MainInputs inp ks "p" "w" k pre (.ok m) true true true true ∧ m.isNotice = true ∧
      runFuel (k + 200) (Code.ctxWith nowNs DictThreads.ext [] inp) "thread_manager::run" .unit
        [.int .u32 drift, phcValue phc]
        = .ok .unit .unit (startEvents ks phc drift "p" "w" ++ evs.map MainEv.value) ∧
      mainTrace Threads.init acts <+: evs.filterMap MainEv.abs ∧
      mainNexts .loop (mainTrace Threads.init acts) = some s.m := by
  have ht := run_mainTrace Threads.init s acts h
  obtain ⟨inp, ks, k, pre, m, evs, h1, h2, h3, h4⟩ := C15_main_model_within_code _ _ ht drift phc nowNs
  exact ⟨inp, ks, k, pre, m, evs, h1, h2, h3, h4, ht⟩

/-- **C15's headline next to it**: in every execution in which a worker has ended (died at any point, or left its loop),
    every continuation of at least `24 + |main queue| + |writer queue|` rounds ends with `run` returned and both workers
    finished (`C15.exits_after_death_bound`, a theorem about `Threads.step`), and what main did up to the death is what
    the interpreted `thread_manager::run` does (`C15_main_in_every_schedule`).  The transport of the first conjunct to a
    system made of the four interpreted functions is NOT proved: see the header. -/
theorem C15_exits_after_death (acts : List Action) (s s' : State) (n : Nat)
    (h : Threads.run Threads.init acts = some s) (he : Ended s) (hr : Rounds n s s')
    (hn : 24 + s.qM.length + s.qW.length ≤ n) :
    (s'.m = .returned ∧ s'.p = .done ∧ s'.w = .done) ∧
    ∃ pc, mainNexts .loop (mainTrace Threads.init acts) = some pc ∧ pc = s.m :=
  ⟨C15.exits_after_death_bound (run_reachable .init h) he hr hn, _, run_mainTrace Threads.init s acts h, rfl⟩

/-- non-vacuity: the schedule of `C15.toPollerDies2` (the poller panics in its second trip) followed by main's receive -/
example : mainTrace Threads.init (C15.toPollerDies2 ++ [.main]) = [.recv (.notice .poller .panic)] := by decide

/-! ### the two workers -/

/-- **C15 on the source, the poller thread**: the interpreted `chrony_poller::run`, fed ANY admissible input stream
    (`k` trips through the loop whose mailbox check is not Abort, then the end `e`), ends in one of two ways only:
    `Ok(ThreadAbort)` at the mailbox check ⇒ it RETURNS (the model's `exiting terminate`); a failed send to the
    ShmWriter ⇒ it PANICS (`exiting panic`).  Its trips read as the model's `PollerIter`s form a program that takes the
    model's poller (`stepPoller`, `pollerClockFail`, `pollerTimeout`) from `start` to that `exiting` state -/
theorem C15_poller_thread_ends (ks : List Thread) (phc : Option (Nat × Value)) (k F : Nat) (it : Nat → PIter)
    (hcont : ∀ i, i < k → (it i).wait.continues = true) (hmiss : ∀ i, i < k → (it i).poll.phcMiss phc)
    (hrep : ∀ i, i < k → (it i).abs.isSome = true)
    (e : PEnd) (hmissE : e.poll.phcMiss phc) (hsend : ∀ p, e = .sendFailed p → p.sends = true)
    (nowNs : Int) (inp : Nat → Value) (i0 i1 : Value)
    (hin : inputsAt inp 0 (pollerStartInputs i0 i1 ++ loopInputs k it e)) :
    ∃ (log : List Value) (its : List PollerIter) (pe : PollerEnd),
      ((pe.kind = .terminate ∧
          runFuel (F + k + 200) (pollerCtx nowNs inp) "chrony_poller::run" .unit
            [contextValue .poller ks, phcValue phc] = .ok .unit .unit log) ∨
       (pe.kind = .panic ∧
          runFuel (F + k + 200) (pollerCtx nowNs inp) "chrony_poller::run" .unit
            [contextValue .poller ks, phcValue phc] = .panic)) ∧
      log = pollerStartEvents i0 i1 ++ loopEvents 1000000000 k it e ∧
      its = (List.range k).filterMap (fun i => (it i).abs) ∧ its.length = k ∧ pe = e.abs ∧
      pollerNexts .start (pollerProg its pe) = some (.exiting pe.kind) := by
  have hrun := poller_exit_eq ks phc k F it hcont hmiss e hmissE hsend nowNs inp i0 i1 hin
  refine ⟨_, _, _, ?_, rfl, rfl, ?_, rfl, ?_⟩
  · cases e with
    | abort p => exact Or.inl ⟨rfl, hrun⟩
    | sendFailed p => exact Or.inr ⟨rfl, hrun⟩
  · have := List.filterMap_length_eq_length.2 fun i hi => hrep i (List.mem_range.1 hi)
    rwa [List.length_range] at this
  · exact ThreadsProgProps.poller_prog_pcs _ _
      (List.forall_mem_filterMap.2 fun i hi x hx => (poller_iter_abs (it i) x (hcont i (List.mem_range.1 hi)) hx).2)

/-- the model end of a writer run -/
def wendAbs : WEnd → WriterEnd
  | .abort => .abort
  | .handlerPanic _ => .handlerPanic .data

/-- **C15 on the source, the writer thread**: the interpreted `shm_writer::run` (in `writerCtx`), once `ShmWriter::new`
    succeeded, handles ANY sequence of messages and goes on, and ends in one of two ways only: `Ok(ThreadAbort)` ⇒ it
    RETURNS, nothing else done (`exiting terminate`); a handler panics ⇒ it panics (`exiting panic`, the model's
    `writerDie panic` at `recv`).  The handled messages, read as model messages, form a program that takes the model's
    writer (`stepWriter`) from `start` to that `exiting` state -/
theorem C15_writer_thread_ends (ks : List Thread) (drift : Nat) (k F : Nat) (ws : Nat → WStep)
    (hdone : ∀ i, i < k → (ws i).done = true) (hwf : ∀ i, i < k → (ws i).wellFormed = true)
    (e : WEnd) (he : ∀ s, e = .handlerPanic s → s.done = false) (nowNs : Int) (inp : Nat → Value)
    (hin : inputsAt inp 0 (.enumv "Ok" [.writer] :: wloopInputs k ws e)) :
    ∃ (log : List Value) (handled : List Threads.Msg) (we : WriterEnd),
      ((we.kind = .terminate ∧
          runFuel (F + k + 200) (writerCtx nowNs inp) "shm_writer::run" .unit
            [contextValue .writer ks, .int .u32 drift] = .ok .unit .unit log) ∨
       (we.kind = .panic ∧
          runFuel (F + k + 200) (writerCtx nowNs inp) "shm_writer::run" .unit
            [contextValue .writer ks, .int .u32 drift] = .panic)) ∧
      log = evOp "ShmWriter::new" [shmPathValue] (.enumv "Ok" [.writer]) :: wloopEvents k ws ∧
      handled = (List.range k).filterMap (fun i => (ws i).abs) ∧ we = wendAbs e ∧
      writerNexts .start (writerProg handled we) = some (.exiting we.kind) := by
  have hrun := writer_exit_eq ks drift k F ws hdone hwf e he nowNs inp hin
  refine ⟨_, _, _, ?_, rfl, rfl, rfl, ?_⟩
  · cases e with
    | abort => exact Or.inl ⟨rfl, hrun⟩
    | handlerPanic s => exact Or.inr ⟨rfl, hrun⟩
  · apply ThreadsProgProps.writer_prog_pcs
    · exact List.forall_mem_filterMap.2 fun i hi x hx => writer_step_abs (ws i) x (hwf i (List.mem_range.1 hi)) hx
    · intro m hm
      cases e <;> cases hm
      decide

/-- **C15 on the source, the writer's start-up failure**: `ShmWriter::new` fails ⇒ `shm_writer::run` panics before it
    ever looks at its mailbox: the model's `writerDie panic` at `start` -/
theorem C15_writer_open_failure (ks : List Thread) (drift : Nat) (F : Nat) (err : Value) (nowNs : Int)
    (inp : Nat → Value) (h0 : inp 0 = .enumv "Err" [err]) :
    runFuel (F + 200) (writerCtx nowNs inp) "shm_writer::run" .unit [contextValue .writer ks, .int .u32 drift]
      = .panic ∧
    writerNexts .start (writerProg [] .openFailed) = some (.exiting .panic) :=
  ⟨writer_open_failed_eq ks drift F err nowNs inp h0, by decide⟩

example : inputsAt (fun i => if i = 0 then Value.enumv "Ok" [.writer] else (Recv.ok .abort).value) 0
    (.enumv "Ok" [.writer] :: wloopInputs 0 (fun _ => .disconnected) .abort) := ⟨rfl, rfl, trivial⟩

end ClockBound.OnCode

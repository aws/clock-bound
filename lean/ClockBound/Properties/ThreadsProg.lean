/-
  C15 — the per-thread closed forms of `Model/ThreadsProg.lean` are what the step functions of
  `Model/Threads.lean` (`stepMain`, `stepPoller`, `stepWriter`, `step`) do: these theorems connect the targets of
  the translation tie (`Properties/CodeTieThreads.lean`) to the functions the C15 theorems are about.

  * `*Do s op` IS a step of the model (defined by `stepMain` / `stepPoller` / `stepWriter` / `step`, guarded by "this
    is the operation the model performs here"); `*Do_next`: every such step moves the thread's program counter as the
    control-flow function `*Next` says.
  * `main_prog_pcs`, `poller_prog_pcs`, `writer_prog_pcs`: the closed-form program of each thread takes the control
    flow from the thread's first program counter to its last (`returned`, resp. `exiting k`: the Context drop).
  * `main_prog_run`: the main program, performed operation by operation with `stepMain` / `step` on a global state
    whose main queue holds the messages and whose workers have finished, ends in `returned` with Abort sent to both
    workers (as far as their receivers exist) — "= `stepMain` run from `MainPc.loop`".
-/
import ClockBound.Proofs.ThreadsProg
import ClockBound.Proofs.Threads
namespace ClockBound.ThreadsProgProps
open ClockBound.Threads ClockBound.ThreadsProg

/-! `*Do_next`: an accepted operation is a guarded `step`; inverting that step (`step_iff`) shows the new program
counter, and the guard rules out all constructors but the operation's own. -/

theorem mainDo_next {s s' : State} {op : MainOp} (h : mainDo s op = some s') : mainNext s.m op = some s'.m := by
  rcases op with x | w | (_ | _)
  all_goals
    simp only [mainDo, show stepMain s = step s .main from rfl] at h
    repeat' split at h
  all_goals first | cases h | (cases step_iff.1 h <;> simp_all [mainNext])

theorem pollerDo_next {s s' : State} {op : PollerOp} (h : pollerDo s op = some s') :
    pollerNext s.p op = some s'.p := by
  rcases op with _ | (_ | _) | _ | ok | (_ | m)
  all_goals
    simp only [pollerDo, show stepPoller s = step s .poller from rfl] at h
    repeat' split at h
  all_goals first | cases h | (cases step_iff.1 h <;> simp_all [pollerNext])

theorem writerDo_next {s s' : State} {op : WriterOp} (h : writerDo s op = some s') :
    writerNext s.w op = some s'.w := by
  rcases op with (_ | _) | _ | m | _
  all_goals
    simp only [writerDo, show stepWriter s = step s .writer from rfl] at h
    repeat' split at h
  all_goals first | cases h | (cases step_iff.1 h <;> simp_all [writerNext])

theorem main_prog_pcs (ignored : List Msg) (notice : Msg) (first : Worker)
    (hi : ∀ x ∈ ignored, x.isNotice = false) (hn : notice.isNotice = true) :
    mainNexts .loop (mainProg ignored notice first) = some .returned := by
  induction ignored with
  | nil => cases first <;> simp [mainProg, mainNexts, mainNext, hn, other]
  | cons x rest ih =>
    simp only [List.forall_mem_cons] at hi
    simpa [mainProg, mainNexts, mainNext, hi.1] using ih hi.2

theorem main_prog_run (s : State) (ignored rest : List Msg) (notice : Msg) (first : Worker)
    (hm : s.m = .loop) (hq : s.qM = ignored ++ notice :: rest)
    (hi : ∀ x ∈ ignored, x.isNotice = false) (hn : notice.isNotice = true)
    (hp : s.p = .done) (hw : s.w = .done) :
    mainRun s (mainProg ignored notice first)
    = some { s with m := .returned, qM := [], qP := sendTo s.rxP s.qP .abort, qW := sendTo s.rxW s.qW .abort } := by
  obtain ⟨m, p, w, qM, qP, qW, rxP, rxW⟩ := s
  dsimp only at hm hq hp hw
  subst hm hq hp hw
  induction ignored with
  | nil => cases first <;> simp [mainProg, mainRun, mainDo, stepMain, step, hn, other]
  | cons x xs ih =>
    simp only [List.forall_mem_cons] at hi
    simpa [mainProg, mainRun, mainDo, stepMain, hi.1] using ih hi.2

theorem poller_prog_pcs (its : List PollerIter) (e : PollerEnd) (h : ∀ it ∈ its, it.wait ≠ some .abort) :
    pollerNexts .start (pollerProg its e) = some (.exiting e.kind) := by
  simp only [pollerProg, pollerNexts, pollerNext]
  induction its with
  | nil => rcases e with (_ | _) | _ <;> rfl
  | cons it rest ih =>
    simp only [List.forall_mem_cons] at h
    simpa [pollerNexts_append, pollerNexts_iter it h.1] using ih h.2

theorem writer_prog_pcs (handled : List Msg) (e : WriterEnd) (h : ∀ x ∈ handled, x ≠ .abort)
    (he : ∀ m, e = .handlerPanic m → m ≠ .abort) :
    writerNexts .start (writerProg handled e) = some (.exiting e.kind) := by
  cases e <;> simp [writerProg, writerNexts, writerNext, writerNexts_recvs handled _ h, WriterEnd.kind, he]

/-- the Context drop is the model's `exiting k → dropping` step: one send of `notice w k` to main's queue -/
theorem drop_step_poller (s : State) (k : Kind) (h : s.p = .exiting k) :
    stepPoller s = some { s with p := .dropping, qM := sendTo s.m.rxAlive s.qM (.notice .poller k) } ∧
    dropNextP s.p k = some .dropping := by
  simp [stepPoller, dropNextP, h]

theorem drop_step_writer (s : State) (k : Kind) (h : s.w = .exiting k) :
    stepWriter s = some { s with w := .dropping, qM := sendTo s.m.rxAlive s.qM (.notice .writer k) } ∧
    dropNextW s.w k = some .dropping := by
  simp [stepWriter, dropNextW, h]

/-! non-vacuity: a concrete run (poller died by panic; main ignores a data message first) -/
example : mainRun ⟨.loop, .done, .done, [.abort, .notice .poller .panic], [], [.data], false, false⟩
    (mainProg [.abort] (.notice .poller .panic) .writer)
    = some ⟨.returned, .done, .done, [], [], [.data], false, false⟩ := by decide
example : pollerNexts .start (pollerProg [⟨true, none⟩, ⟨false, some .data⟩] .sendFailed) = some (.exiting .panic) := by
  decide
example : writerNexts .start (writerProg [.data, .data] .abort) = some (.exiting .terminate) := by decide

end ClockBound.ThreadsProgProps

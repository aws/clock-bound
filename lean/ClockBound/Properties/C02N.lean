/-
  C02 / C03 for any number of readers: the N-reader system projects onto the one-reader system.
-/
import ClockBound.Model.SeqlockSysN
import ClockBound.Proofs.SeqlockN
import ClockBound.Properties.C02
namespace ClockBound.C02
open ClockBound ClockBound.SL

/-- Projection: for every reachable state of the N-reader system and every reader index i that exists
    in it, there is a reachable state of the one-reader system with the same log, the same writer, the
    same `written`, whose reader is reader i and whose `returned` list is what reader i has been
    handed since it joined (a reader that joins late is a reader that re-opened: `rOpen`). -/
theorem projection (a : Ann) (ver gen : Nat) (cells0 : List Nat)
    (s : SysN) (hr : ReachableN a (SysN.init ver gen cells0) s) (i : Nat) (r : Reader) (hi : s.rs[i]? = some r) :
    ∃ t : Sys, Reachable a (Sys.init ver gen cells0) t ∧ t.log = s.log ∧ t.w = s.w ∧ t.written = s.written ∧
      t.r = r ∧ ∀ c ∈ (s.returned[i]?.getD []), c ∈ t.returned :=
  (SLN.inv_reachable hr).wit hi

/-- C02 for any number of readers (histories with fewer than 32767 completed updates) -/
theorem no_mixture_any_readers (a : Ann) (ha : a.adequate = true)
    (ver gen : Nat) (cells0 : List Nat) (hc : cells0.length = N) (hg : gen < 65536)
    (s : SysN) (hr : ReachableN a (SysN.init ver gen cells0) s)
    (hnowrap : completedUpdates s.log < 32767) (i : Nat) :
    ∀ c ∈ (s.returned[i]?.getD []), c = zerosN ∨ c = cells0 ∨ c ∈ s.written := by
  intro c hcm
  exact no_mixture a ha ver gen cells0 hc hg _ ((SLN.inv_reachable hr).each i) hnowrap c hcm

end ClockBound.C02

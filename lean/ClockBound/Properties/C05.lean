/-
  C05 — Client interval: centred on the clock reading, wide enough, growing with age.
-/
import ClockBound.Model.Oracles
import ClockBound.Proofs.Client
namespace ClockBound.C05
open ClockBound

/-- (a) symmetric around the realtime reading, ordered, half-width = bound + growth(age, drift) -/
theorem symmetric (x : ClientIn) (h : applicable x = true) (e l : TimeSpec) (st : Status)
    (hout : computeBoundAt x.r x.real x.mono = .ok e l st) :
    l.toNs - x.real.toNs = x.r.bound + growth x.age x.r.drift ∧
    x.real.toNs - e.toNs = x.r.bound + growth x.age x.r.drift ∧
    e.toNs ≤ l.toNs ∧ e.normalized ∧ l.normalized := by
  simp only [applicable, Bool.and_eq_true] at h
  have hm := meaningful_spec h.1
  obtain ⟨_, _, _, he, hl, hen, hln, hg⟩ := ok_closed x hm e l st hout
  have hb0 := hm.bound.1
  exact ⟨by omega, by omega, by omega, hen, hln⟩

/-- (b) the growth term against the exact product P = drift·age/10^9:
    P(1 − 2^-51) − 1 < growth ≤ P(1 + 2^-51)  (three f64 roundings, one truncation) -/
theorem growth_bounds (age : Int) (drift : Nat) (ha : 0 ≤ age) (ha2 : age ≤ 4300000000000000000)
    (hd : drift < 1000000000) :
    let P : Rat := (drift : Rat) * (age : Rat) / 1000000000
    P * (1 - eps51) - 1 < (growth age drift : Rat) ∧ (growth age drift : Rat) ≤ P * (1 + eps51) := by
  rw [show eps51 = 1 / 2 ^ 51 by norm_num [eps51]]
  exact growth_bounds_aux age drift ha ha2 hd

/-- (b') exact in the regime the existing unit tests live in: whole seconds, small products -/
theorem growth_exact_whole_seconds (secs : Nat) (drift : Nat) (h1 : secs * 1000000000 < 2^53)
    (h2 : drift * secs < 2^53) (hd : drift < 2^32) :
    growth ((secs : Int) * 1000000000) drift = drift * secs := by
  have hs : secs < 2 ^ 53 := by omega
  have h3 : secs * drift < 2 ^ 53 := by rwa [Nat.mul_comm]
  -- every value that is rounded is a natural number below 2^53
  rw [growth_eq, Int.cast_natCast,
    show (((secs : Int) * 1000000000 : Int) : ℚ) = ((secs * 1000000000 : ℕ) : ℚ) by push_cast; rfl,
    F64.rne53_natCast _ h1.le, Nat.cast_mul, Nat.cast_ofNat, mul_div_cancel_right₀ _ (by norm_num),
    F64.rne53_natCast _ hs.le, F64.rne53_natCast _ (by omega), ← Nat.cast_mul, F64.rne53_natCast _ h3.le,
    ← Int.cast_natCast, F64.castI64_intCast (by omega) (by omega)]
  push_cast; ring

/-- growth is monotone in the age (hence non-negative from age 0 on, where it is 0) -/
theorem growth_mono (a1 a2 : Int) (drift : Nat) (h : a1 ≤ a2) :
    growth a1 drift ≤ growth a2 drift :=
  growth_mono_aux a1 a2 drift h

/-- (c) the half-width never shrinks as the record gets older -/
theorem mono_holds (x : ClientIn) (mono2 : TimeSpec) :
    HoldsMono x mono2 (computeBoundAt x.r x.real x.mono) (computeBoundAt x.r x.real mono2) = true := by
  refine holds_of_applicable fun hg => ?_
  simp only [Bool.and_eq_true, decide_eq_true_eq, applicable] at hg
  obtain ⟨⟨⟨hm, hd⟩, hr2⟩, hle⟩ := hg
  cases ho1 : computeBoundAt x.r x.real x.mono with
  | ok e1 l1 s1 =>
    cases ho2 : computeBoundAt x.r x.real mono2 with
    | ok e2 l2 s2 =>
      simp only [halfWidth, decide_eq_true_eq]
      exact (width_mono (y := ⟨x.r, x.real, mono2⟩) hm (meaningful_withMono hm hr2) rfl rfl
        (by simp only []; omega) ho1 ho2).1
    | _ => rfl
  | _ => rfl

theorem model_holds (x : ClientIn) : Holds x (computeBoundAt x.r x.real x.mono) = true := by
  refine holds_of_applicable fun h => ?_
  cases hout : computeBoundAt x.r x.real x.mono with
  | ok e l st =>
    obtain ⟨h1, h2, h3, h4, h5⟩ := symmetric x h e l st hout
    simp only [applicable, Bool.and_eq_true, decide_eq_true_eq] at h
    obtain ⟨hm, hd⟩ := h
    have hb0 := (meaningful_spec hm).bound.1
    have hg0 := growth_nonneg x.r.drift (age_nonneg x)
    obtain ⟨gb1, gb2⟩ :=
      growth_bounds x.age x.r.drift (age_nonneg x) (age_le x (meaningful_spec hm)) hd
    have hg : l.toNs - x.real.toNs - x.r.bound = growth x.age x.r.drift := by omega
    simp only [Bool.and_eq_true, decide_eq_true_eq, TimeSpec.normB, exactGrowth, hg]
    exact ⟨⟨⟨⟨⟨by omega, by omega⟩, h4⟩, h5⟩, gb1⟩, gb2⟩
  | _ => rfl

example : applicable ⟨⟨⟨0,0⟩,⟨1000,0⟩,10000,1000,0,.synchronized⟩,⟨2,0⟩,⟨2,0⟩⟩ = true := by decide
example : growth 2000000000 1000 = 2000 := by decide +kernel
example : computeBoundAt ⟨⟨0,0⟩,⟨10,0⟩,10000,1000,0,.synchronized⟩ ⟨2,0⟩ ⟨2,0⟩
    = .ok ⟨1,999988000⟩ ⟨2,12000⟩ .synchronized := by decide +kernel

end ClockBound.C05

/-
  Translation tie, part 1: `ClockErrorBound::compute_bound_at` (clock-bound-shm/src/lib.rs).

  For every record and every pair of clock readings, the AST that the translator regenerated from the
  Rust source (`Generated.Code.fns`), run by the interpreter `Rs.run`, yields exactly the embedding of
  the hand-written model `computeBoundAt`: `Ok((earliest, latest, status))`, the two `Err`s, a panic
  where the model says `panic` — and it never gets stuck.

  No range hypothesis is needed: the interpreter checks every arithmetic result against the range of
  its Rust type exactly where the model does, and the inputs are only read.
-/
import ClockBound.Proofs.RsClient
namespace ClockBound.CodeTieClient
open ClockBound ClockBound.Rs ClockBound.Generated

theorem compute_bound_at_eq (r : Record) (real mono : TimeSpec) (nowNs : Int) :
    run (Code.ctx nowNs) "ClockErrorBound::compute_bound_at" (recordValue r)
      [ctimespecValue real, ctimespecValue mono]
    = clientOutcome r (computeBoundAt r real mono) :=
  run_eq_of_call (by simp only [rs_eval, rs_base, rs_code])
    (ClientProof.call_compute_bound_at r real mono nowNs Ext.none [] _ Ext.none_conservative 160 _)

/-- the generated code never leaves the fragment the interpreter has rules for -/
theorem compute_bound_at_not_stuck (r : Record) (real mono : TimeSpec) (nowNs : Int) :
    (run (Code.ctx nowNs) "ClockErrorBound::compute_bound_at" (recordValue r)
      [ctimespecValue real, ctimespecValue mono]).isStuck = false := by
  rw [compute_bound_at_eq]
  cases computeBoundAt r real mono <;> rfl

/-- the well-formedness predicate of the Rust types (not needed by the theorems above; stated so
    that the quantification is visibly over at least every value the Rust types allow) -/
def Record.inRange (r : Record) : Bool :=
  inI64 r.asOf.sec && inI64 r.asOf.nsec && inI64 r.voidAfter.sec && inI64 r.voidAfter.nsec &&
  inI64 r.bound && decide (r.drift < 4294967296) && decide (r.reserved < 4294967296)

example : Record.inRange ⟨⟨1700000000, 5⟩, ⟨1700001000, 0⟩, 12345, 1000, 0, .synchronized⟩ = true := by decide

end ClockBound.CodeTieClient

/-
  C13, last clause ("the PHC error bound is added exactly when the configured reference id matches the report's") and C07's
  "(+PHC)", at the level of what is TYPED on the command line: `refidOf` (= `refid_to_u32`) is the exact big-endian packing of at
  most four ASCII bytes, injective on strings of equal length (so "phc0" and "PHC0", or "EC2A" and its reading as a hexadecimal
  number, are different ids), and the record the model expects from a `phcrun` scenario satisfies the oracle `HoldsPhcRun`.
-/
import ClockBound.Model.Config
import ClockBound.Properties.C07
namespace ClockBound.C13
open ClockBound

theorem refid_four (a b c d : Nat) (ha : a < 128) (hb : b < 128) (hc : c < 128) (hd : d < 128) :
    refidOf [a, b, c, d] = some (a * 16777216 + b * 65536 + c * 256 + d) := by
  unfold refidOf
  rw [if_pos ⟨Nat.le_refl 4, by simp [ha, hb, hc, hd]⟩]
  simp only [List.foldl]
  exact congrArg some (by omega)

/-- more than four bytes, or a byte that is not ASCII: not a reference id -/
theorem refid_refused (bs : List Nat) (h : 4 < bs.length ∨ ∃ b ∈ bs, 128 ≤ b) : refidOf bs = none := by
  unfold refidOf
  rw [if_neg]
  rintro ⟨hl, ha⟩
  rcases h with h | ⟨b, hb, h⟩
  · omega
  · have := List.all_eq_true.mp ha b hb
    simp only [decide_eq_true_eq] at this
    omega

/-- big-endian packing of bytes is injective on strings of equal length, from any accumulators -/
theorem pack_injective : ∀ (bs bs' : List Nat) (a a' : Nat), bs.length = bs'.length →
    (∀ b ∈ bs, b < 256) → (∀ b ∈ bs', b < 256) →
    bs.foldl (fun a b => a * 256 + b) a = bs'.foldl (fun a b => a * 256 + b) a' → a = a' ∧ bs = bs'
  | [], [], _, _, _, _, _, h => ⟨h, rfl⟩
  | x :: xs, x' :: xs', a, a', hl, hb, hb', h => by
    obtain ⟨e, rfl⟩ := pack_injective xs xs' _ _ (Nat.succ.inj hl)
      (fun b m => hb b (List.mem_cons_of_mem _ m)) (fun b m => hb' b (List.mem_cons_of_mem _ m)) h
    have e : a * 256 + x = a' * 256 + x' := e
    have := hb x List.mem_cons_self
    have := hb' x' List.mem_cons_self
    exact ⟨by omega, by congr 1; omega⟩

/-- two spellings of the same length denote the same id only if they are the same bytes -/
theorem refid_injective (bs bs' : List Nat) (hl : bs.length = bs'.length) (r : Nat)
    (h : refidOf bs = some r) (h' : refidOf bs' = some r) : bs = bs' := by
  unfold refidOf at h h'
  split at h <;> [skip; cases h]
  split at h' <;> [skip; cases h']
  rename_i h1 h2
  have ascii : ∀ {l : List Nat}, l.all (· < 128) = true → ∀ b ∈ l, b < 256 := fun ha b hb => by
    have := List.all_eq_true.mp ha b hb
    simp only [decide_eq_true_eq] at this
    omega
  exact (pack_injective bs bs' 0 0 hl (ascii h1.2) (ascii h2.2)
    ((Option.some.inj h).trans (Option.some.inj h').symm)).2

/-- the ids are case-sensitive, and a string of hexadecimal digits is not read as a number -/
example : refidOf [0x70, 0x68, 0x63, 0x30] ≠ refidOf [0x50, 0x48, 0x43, 0x30] ∧
    refidOf [0x45, 0x43, 0x32, 0x41] = some 0x45433241 ∧ refidOf [0x45, 0x43, 0x32, 0x41] ≠ some 0xEC2A := by decide

theorem refMatches_fake (r c : Nat) : refMatches (some r) (fakeTracking c) = decide (r = c) := rfl

/-- the PHC value is part of the expected bound exactly when the configured id is the report's -/
theorem added_iff (cfg : List Nat) (chrony : Nat) (phc : Int) (hp : phc ≠ 0) (r : Nat) (hr : refidOf cfg = some r) :
    phcExpected cfg chrony (some phc) = some (boundF (fakeTracking chrony) + phc) ↔ r = chrony := by
  unfold phcExpected
  rw [hr]
  simp only [Option.bind_some, refMatches_fake]
  by_cases h : r = chrony
  · simp [h]
  · have hd : decide (r = chrony) = false := by simpa using h
    simp only [hd, Bool.false_eq_true, if_false, Option.some.injEq]
    constructor
    · intro e; omega
    · intro e; exact absurd e h

/-- an attribute that is not a number, with the PHC as reference: no trusted record at all -/
theorem unparsable_not_a_measurement (cfg : List Nat) (r : Nat) (hr : refidOf cfg = some r) :
    phcExpected cfg r none = none := by
  unfold phcExpected
  rw [hr]
  simp [refMatches_fake]

theorem idMatches_self (cfg : List Nat) (r : Nat) : idMatches cfg r r ≠ some false := by
  unfold idMatches
  split
  · simp
  · simp

theorem idMatches_ne (cfg : List Nat) (r c : Nat) (h : r ≠ c) : idMatches cfg r c ≠ some true := by
  unfold idMatches
  split
  · simpa using h
  · split <;> simp

/-- the model's expectation satisfies the oracle the correspondence evaluates on the daemon's record -/
theorem phc_model_holds (cfg : List Nat) (chrony : Nat) (phc : Option Int) :
    HoldsPhcRun cfg chrony phc ((phcExpected cfg chrony phc).map (fun b => (b, 1))) = true := by
  unfold HoldsPhcRun phcExpected
  cases hr : refidOf cfg with
  | none => rfl
  | some r =>
    simp only [Option.bind_some, refMatches_fake]
    have h0 := C07.model_holds (fakeTracking chrony) 0
    rw [Int.add_zero] at h0
    -- which of the oracle's three readings of "the ids match" applies does not matter
    by_cases e : r = chrony
    · subst e
      have hm := idMatches_self cfg r
      generalize idMatches cfg r r = m at hm ⊢
      cases phc with
      | none => rcases m with _ | _ | _ <;> simp_all
      | some p =>
        have hp := C07.model_holds (fakeTracking r) p
        rcases m with _ | _ | _ <;> simp_all
    · have hm := idMatches_ne cfg r chrony e
      generalize idMatches cfg r chrony = m at hm ⊢
      cases phc <;> rcases m with _ | _ | _ <;> simp_all

/-- non-vacuity: the scenario's report is in C07's meaningful range, so the oracle does constrain the record -/
example : C07.applicable (fakeTracking 1346913072) 250000 = true ∧ refidOf [0x50, 0x48, 0x43, 0x30] = some 1346913072 := by
  constructor <;> decide +kernel

end ClockBound.C13

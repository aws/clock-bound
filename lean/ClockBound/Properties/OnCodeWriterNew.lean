/-
  C04 / C16, the writer (repair) half, stated ABOUT THE SOURCE: each theorem mentions only
    * the AST `Generated.Code` regenerated from clock-bound-shm/src/{writer,reader,shm_header}.rs, run by the interpreter with
      the context of the `Shm` group (`CodeTieWriterNew.ctx`; the environment's answers are `EmbedShm.newAnswers`: every
      operation succeeds), and
    * the crash script `Crash.script` of C04 (the named events the crash sweep kills the writer at) resp. the byte-level
      repair `writerNew` of C16;
  the closed form `Crash.newOps` occurs only as an existential witness (`ops`).

  Decoding: a logged state-changing operation is the image `opValue o path parent op` of an `op : Crash.Op` (`opValue` is
  injective on the operations that occur, up to the role tag of a header write, which is the POSITION of the write), and
  `Crash.Op.ev` names the event of the crash script it is reported as.
-/
import ClockBound.Proofs.OnCodeWriterNew
import ClockBound.Properties.C04
namespace ClockBound.OnCode
open ClockBound ClockBound.Rs ClockBound.Generated ClockBound.Rs.DictShm ClockBound.Rs.EmbedShm

/-- what the interpreted `ShmWriter::new(path)` does on the prior state `st` of the path: it returns `Ok(writer)` over the
    mapping, and its state-changing operations (file: create / write / sync / set_len / mkdir; mapping: store), in order,
    are the images of `ops`, the version store having the ordering `o` -/
def NewDoes (st : FileState) (parent : String) (fd : Nat) (o : SL.Ord) (ops : List Crash.Op) : Prop :=
  (run (CodeTieWriterNew.ctx (streamOf (newAnswers fd (parent != "") st))) "ShmWriter::new" .unit [pathObj "shm" parent]).okWith isMutEv
  = some (writerValue SEGMENT_SIZE, ops.map (opValue o (pathObj "shm" parent) (pathObj parent "")))

/-- **C04 on the source, the script**: for EVERY prior state of the path that is not a directory, the interpreted
    `ShmWriter::new` succeeds and its operations, read as events of the crash sweep, are exactly the operation events of
    `Crash.script` on that prior up to the first `write` — the script splits into the part of `new` (`pre`) and the six
    events of the first `write` (`Crash.writeScript`, covered by `C11_write_stores` / `CodeTieSeqlock.write_eq`). -/
theorem C04_new_is_script (st : FileState) (hdir : st ≠ .directory) (hst : CodeTieHeader.FileState.hdrInRange st)
    (parent : String) (fd : Nat) (hfd : fd ≤ 2147483647) :
    ∃ o ops pre, NewDoes st parent fd o ops ∧
      Crash.script (Crash.fileAOf st) = pre ++ Crash.writeScript ∧
      ops.filterMap Crash.Op.ev = pre.filter Crash.Ev.isOp := by
  obtain ⟨o, h⟩ := CodeTieWriterNew.new_eq st hdir hst parent fd hfd
  exact ⟨o, _, _, h, WriterNewProg.script_split _, WriterNewProg.newOps_script _ _⟩

/-- **C04(d) on the source: a usable segment is taken over in place.**  If `ShmReader::new` would accept the prior file
    (`fileAOf st` usable: ≥ 16 bytes, magic, version ≠ 0, generation ≠ 0, declared size ≥ 72), the interpreted `new`
    performs NO create / truncate / header write / zero fill: at most a `set_len(72)` that grows a short file, then the
    version store.  Hence (`C04.usable_never_wiped`) none of the wipe events of the crash script can occur. -/
theorem C04_usable_kept (st : FileState) (hdir : st ≠ .directory) (hst : CodeTieHeader.FileState.hdrInRange st)
    (hu : (Crash.fileAOf st).usable = true) (parent : String) (fd : Nat) (hfd : fd ≤ 2147483647) :
    ∃ o ops, NewDoes st parent fd o ops ∧
      (∀ op ∈ ops, op = .setLen SEGMENT_SIZE ∨ op = .storeVersion 1) ∧
      (∀ e ∈ Crash.script (Crash.fileAOf st), C04.isWipeEv e = false) := by
  obtain ⟨o, h⟩ := CodeTieWriterNew.new_eq st hdir hst parent fd hfd
  refine ⟨o, _, h, ?_, C04.usable_never_wiped _ hu⟩
  intro op hop
  simp only [Crash.newOps, hu, if_true] at hop
  split at hop <;> simp at hop <;> simp [hop]

/-- **C04 on the source: anything else is re-created, truncation first.**  If the prior is not usable, the operations are,
    in this order: `create_dir_all` (iff the path has a parent directory), `File::create` (which TRUNCATES: the payload of
    the unusable file is gone before any header byte is written), the five header writes — magic 0, magic 1, size 72,
    version 0, generation 0 —, 56 zero bytes, `sync_all`, and only then the version store through the mapping. -/
theorem C04_unusable_recreated (st : FileState) (hdir : st ≠ .directory) (hst : CodeTieHeader.FileState.hdrInRange st)
    (hu : (Crash.fileAOf st).usable = false) (parent : String) (fd : Nat) (hfd : fd ≤ 2147483647) :
    ∃ o, NewDoes st parent fd o
      ((if (parent != "") = true then [Crash.Op.createDirAll] else []) ++
       [.create, .writeU32 .wipeMagic0 MAGIC0, .writeU32 .wipeMagic1 MAGIC1, .writeU32 .wipeSegsize SEGMENT_SIZE,
        .writeU16 .wipeVersion 0, .writeU16 .wipeGeneration 0, .writeAll (SEGMENT_SIZE - HEADER_SIZE), .syncAll,
        .storeVersion 1]) := by
  obtain ⟨o, h⟩ := CodeTieWriterNew.new_eq st hdir hst parent fd hfd
  refine ⟨o, ?_⟩
  unfold NewDoes
  rw [h]
  simp [Crash.newOps, hu]

/-- **C04 headline, for the script the source runs**: wherever the writer dies in `new; write rec` over the prior the
    source was shown to follow the script of, a FRESH client that opens the file left behind either cannot attach, or
    obtains the empty record, the record being published or — over a usable prior only — the prior's record. -/
theorem C04_fresh_after_crash (st : FileState) (hdir : st ≠ .directory) (hst : CodeTieHeader.FileState.hdrInRange st)
    (parent : String) (fd : Nat) (hfd : fd ≤ 2147483647) (rec : List Nat) (k : Nat) :
    ∃ o ops pre, NewDoes st parent fd o ops ∧
      Crash.script (Crash.fileAOf st) = pre ++ Crash.writeScript ∧ ops.filterMap Crash.Op.ev = pre.filter Crash.Ev.isOp ∧
      (let f1 := (Crash.runUntil (Crash.fileAOf st) rec k).1
       let r := ({} : Crash.ReaderA).snap f1
       Crash.openText f1 ≠ "ok" ∨ r.cache = List.replicate 7 0 ∨ r.cache = rec ∨
         ((Crash.fileAOf st).usable = true ∧ r.cache = (Crash.fileAOf st).cells)) := by
  obtain ⟨o, ops, pre, h1, h2, h3⟩ := C04_new_is_script st hdir hst parent fd hfd
  exact ⟨o, ops, pre, h1, h2, h3, C04.fresh_after_crash _ rec k⟩

/-- non-vacuity: the hypotheses hold for a missing path, a wiped file and a valid segment, and the two paths differ -/
example : CodeTieHeader.FileState.hdrInRange .missing ∧ (Crash.fileAOf .missing).usable = false ∧
    CodeTieHeader.FileState.hdrInRange (.file (encodeHeader ⟨MAGIC0, MAGIC1, 72, 1, 4⟩ ++ List.replicate 56 0)) ∧
    (Crash.fileAOf (.file (encodeHeader ⟨MAGIC0, MAGIC1, 72, 1, 4⟩ ++ List.replicate 56 0))).usable = true := by
  refine ⟨trivial, rfl, ?_, ?_⟩ <;> decide

/-! ## C16, the repair half: the FILE the operations of `new` leave

  `applyOp` (in `Proofs/OnCodeWriterNew.lean`, part of these statements) is the effect of one operation on the bytes of the
  file: `File::create` creates or truncates, the writes append, `set_len(72)` grows a shorter file with zeros, the version
  store patches bytes 12..13 through the mapping. -/

/-- **C16 on the source, repair**: for every prior state of the path (not a directory) the file the operations of the
    interpreted `ShmWriter::new` leave behind is the file of the model's `writerNew` — the function the repair clause of C16
    (`startAndPublish`, `C16.repair_roundtrip`, the oracle `C16.HoldsSeg`) is about —, re-created exactly when the prior
    does not open. -/
theorem C16_new_leaves_writerNew (st : FileState) (hdir : st ≠ .directory) (hst : CodeTieHeader.FileState.hdrInRange st)
    (parent : String) (fd : Nat) (hfd : fd ≤ 2147483647) :
    ∃ o ops bs0 rc, NewDoes st parent fd o ops ∧ ops.foldl applyOp (fileOf st) = some bs0 ∧
      writerNew st = .ok (.file bs0, rc) ∧ (rc = true ↔ ∀ h, readerOpen st ≠ .ok h) := by
  obtain ⟨o, h⟩ := CodeTieWriterNew.new_eq st hdir hst parent fd hfd
  obtain ⟨bs0, rc, hw, hfold, hrc⟩ := newOps_bytes st hdir (parent != "")
  refine ⟨o, _, bs0, rc, h, hfold, hw, ?_⟩
  rw [hrc, ← Bool.not_eq_true, WriterNewProof.usable_iff_open, not_exists]

/-- **C16 repair round trip, on the source**: … and therefore, after the first publication of a record `r` on the file
    the source leaves (`writeRecord`: the byte image of the first `write`, cf. `CodeTieSeqlock.write_eq` and
    `C01Pipeline.cellsOf_bytes`), clients can open it (layout version 1, even non-zero generation), it was re-created
    exactly when the prior did not open, and a fresh reader reads back exactly `r`. -/
theorem C16_repair_roundtrip (st : FileState) (hdir : st ≠ .directory) (hst : CodeTieHeader.FileState.hdrInRange st)
    (parent : String) (fd : Nat) (hfd : fd ≤ 2147483647) (r : Record) (pad : Bytes) (hr : r.inRange) :
    ∃ o ops bs0 rc, NewDoes st parent fd o ops ∧ ops.foldl applyOp (fileOf st) = some bs0 ∧
      (∃ h, readerOpen (.file (writeRecord bs0 r pad)) = .ok h ∧ h.version = 1 ∧ h.generation ≠ 0 ∧ h.generation % 2 = 0) ∧
      (rc = true ↔ ∀ h, readerOpen st ≠ .ok h) ∧
      (rc = true → writeRecord bs0 r pad = encodeSegmentP ⟨MAGIC0, MAGIC1, 72, 1, 2⟩ r pad) ∧
      snapshotOfFile (.file (writeRecord bs0 r pad)) = .record r := by
  obtain ⟨o, ops, bs0, rc, h1, h2, hw, _⟩ := C16_new_leaves_writerNew st hdir hst parent fd hfd
  obtain ⟨bs', rc', hsp, hopen, hrc, hre, _, hsn⟩ := C16.repair_roundtrip st r pad hdir hr
  have hsp' : startAndPublish st r pad = .ok (.file (writeRecord bs0 r pad), rc) := by
    unfold startAndPublish; rw [hw]; rfl
  cases hsp'.symm.trans hsp
  exact ⟨o, ops, bs0, rc, h1, h2, hopen, hrc, fun h => (hre h).1, hsn⟩

example : Record.inRange ⟨⟨1, 2⟩, ⟨3, 4⟩, 5, 6, 7, .synchronized⟩ := by decide

end ClockBound.OnCode

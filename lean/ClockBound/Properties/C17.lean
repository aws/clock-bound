/-
  C17 — Segment layout and C ABI match their published descriptions.

  Three kinds of statements:
  (1) about the model's encoder (`encodeSegmentP`, Model/Header.lean): round trip, the offset and width
      of every field, status codes, byte order, total size — for all field values and all padding bytes;
  (2) agreement, by evaluation, between the model and the facts GENERATED on every run by
      tools/translate_c17.py from docs/PROTOCOL.md, clockbound.h and the Rust `#[repr(C)]` items
      (Generated/*.lean): `rfl` for a closed equation (`decide` would go on to compare the strings in the
      two values character by character), `decide` otherwise.  The magic number's spelling in the
      document is a separate obligation, `C17.magic_doc_agrees` in Properties/C17Magic.lean;
  (3) the decidable oracles of Model/OraclesH.lean hold of the model.
-/
import ClockBound.Model.OraclesH
import ClockBound.Proofs.Header
namespace ClockBound.C17
open ClockBound Generated

/-! ### (1) the encoder -/

/-- decoding an encoded segment returns the header and the record, for field values that fit their
    widths (`Header.inRange`: u32/u32/u32/u16/u16; `Record.inRange`: five i64, two u32) -/
theorem decode_encode (h : Header) (r : Record) (pad : Bytes) (hh : h.inRange) (hr : r.inRange) :
    decodeSegment (encodeSegmentP h r pad) = some (h, r) := by
  unfold decodeSegment
  rw [if_neg (by rw [length_encodeSegmentP]; decide)]
  unfold encodeSegmentP HEADER_SIZE RECORD_SIZE
  rw [slice_append_right _ _ _ _ (length_encodeHeader h) (by rw [length_encodeRecordP]; decide),
    decodeRecord_encodeRecordP r pad hr, parseHeader_encodeHeader_append h _ hh]
  rfl

theorem decode_encode_zero_pad (h : Header) (r : Record) (hh : h.inRange) (hr : r.inRange) :
    decodeSegment (encodeSegment h r) = some (h, r) :=
  decode_encode h r ZERO_PAD hh hr

/-- little-endian round trip of every unsigned width, and of two's-complement 64-bit values -/
theorem unsigned_roundtrip (n v : Nat) : decLE (encLE n v) = v % 256 ^ n := decLE_encLE n v
theorem signed_roundtrip (x : Int) (h : -(9223372036854775808 : Int) ≤ x ∧ x < 9223372036854775808) :
    decI64 (encI64 x) = x := decI64_encI64 x h

/-- least significant byte first: the magic words as they appear in the file on x86-64 / aarch64 -/
theorem byte_order : encU32 0x414D5A4E = [0x4E, 0x5A, 0x4D, 0x41] ∧ encU32 0x43420200 = [0x00, 0x02, 0x42, 0x43] ∧
    encI64 (-2) = [0xFE, 0xFF, 0xFF, 0xFF, 0xFF, 0xFF, 0xFF, 0xFF] ∧ encU16 0x0102 = [0x02, 0x01] := by decide

theorem total_size (h : Header) (r : Record) (pad : Bytes) : (encodeSegmentP h r pad).length = 72 :=
  length_encodeSegmentP h r pad

/-- the image with its concatenations nested to the right: a field is then read off by evaluation at the
    cost of its offset -/
theorem encodeSegmentP_eq (h : Header) (r : Record) (pad : Bytes) :
    encodeSegmentP h r pad =
      encU32 h.magic0 ++ (encU32 h.magic1 ++ (encU32 h.segsize ++ (encU16 h.version ++ (encU16 h.generation ++
      (encI64 r.asOf.sec ++ (encI64 r.asOf.nsec ++ (encI64 r.voidAfter.sec ++ (encI64 r.voidAfter.nsec ++
      (encI64 r.bound ++ (encU32 r.drift ++ (encU32 r.reserved ++ (encU32 r.status.code ++
      padBytes pad)))))))))))) := by
  simp only [encodeSegmentP, encodeHeader, encodeRecordP, List.append_assoc]

theorem field_magic (h : Header) (r : Record) (pad : Bytes) :
    ((encodeSegmentP h r pad).drop 0).take 8 = encU32 h.magic0 ++ encU32 h.magic1 := by
  rw [encodeSegmentP_eq]
  rfl
theorem field_segsize (h : Header) (r : Record) (pad : Bytes) :
    ((encodeSegmentP h r pad).drop 8).take 4 = encU32 h.segsize := by
  rw [encodeSegmentP_eq]
  rfl
theorem field_version (h : Header) (r : Record) (pad : Bytes) :
    ((encodeSegmentP h r pad).drop 12).take 2 = encU16 h.version := by
  rw [encodeSegmentP_eq]
  rfl
theorem field_generation (h : Header) (r : Record) (pad : Bytes) :
    ((encodeSegmentP h r pad).drop 14).take 2 = encU16 h.generation := by
  rw [encodeSegmentP_eq]
  rfl
theorem field_asOf (h : Header) (r : Record) (pad : Bytes) :
    ((encodeSegmentP h r pad).drop 16).take 16 = encI64 r.asOf.sec ++ encI64 r.asOf.nsec := by
  rw [encodeSegmentP_eq]
  rfl
theorem field_voidAfter (h : Header) (r : Record) (pad : Bytes) :
    ((encodeSegmentP h r pad).drop 32).take 16 = encI64 r.voidAfter.sec ++ encI64 r.voidAfter.nsec := by
  rw [encodeSegmentP_eq]
  rfl
theorem field_bound (h : Header) (r : Record) (pad : Bytes) :
    ((encodeSegmentP h r pad).drop 48).take 8 = encI64 r.bound := by
  rw [encodeSegmentP_eq]
  rfl
theorem field_drift (h : Header) (r : Record) (pad : Bytes) :
    ((encodeSegmentP h r pad).drop 56).take 4 = encU32 r.drift := by
  rw [encodeSegmentP_eq]
  rfl
theorem field_reserved (h : Header) (r : Record) (pad : Bytes) :
    ((encodeSegmentP h r pad).drop 60).take 4 = encU32 r.reserved := by
  rw [encodeSegmentP_eq]
  rfl
theorem field_status (h : Header) (r : Record) (pad : Bytes) :
    ((encodeSegmentP h r pad).drop 64).take 4 = encU32 r.status.code := by
  rw [encodeSegmentP_eq]
  rfl
/-- the last four bytes are the record's tail padding: whatever the writer's source held -/
theorem field_padding (h : Header) (r : Record) (pad : Bytes) :
    ((encodeSegmentP h r pad).drop 68).take 4 = padBytes pad := by
  rw [encodeSegmentP_eq]
  exact List.take_of_length_le (Nat.le_of_eq (length_padBytes pad))

/-- bytes of each named field of the model's layout table -/
def fieldBytes (h : Header) (r : Record) (pad : Bytes) : String → Option Bytes
  | "Magic Number" => some (encU32 h.magic0 ++ encU32 h.magic1)
  | "Segment Size" => some (encU32 h.segsize)
  | "Version" => some (encU16 h.version)
  | "Generation" => some (encU16 h.generation)
  | "As-Of Timestamp" => some (encI64 r.asOf.sec ++ encI64 r.asOf.nsec)
  | "Void-After Timestamp" => some (encI64 r.voidAfter.sec ++ encI64 r.voidAfter.nsec)
  | "Bound" => some (encI64 r.bound)
  | "Max Drift" => some (encU32 r.drift)
  | "Reserved" => some (encU32 r.reserved)
  | "Clock Status" => some (encU32 r.status.code)
  | "Padding" => some (padBytes pad)
  | _ => none

/-- the layout table `modelLayout` (which the generated descriptions are compared with) is the layout
    of the encoder: every row's bytes sit at the row's offset with the row's width, rows are
    consecutive and cover the 72 bytes -/
theorem layout_sound (h : Header) (r : Record) (pad : Bytes) :
    (∀ row ∈ modelLayout, fieldBytes h r pad row.1 = some (slice (encodeSegmentP h r pad) row.2.1 row.2.2)) ∧
    layoutOfDiagram 0 (modelLayout.map fun row => (row.1, 8 * row.2.2)) = some modelLayout ∧
    (modelLayout.map (·.2.2)).foldl (· + ·) 0 = 72 := by
  refine ⟨?_, rfl, rfl⟩
  intro row hrow
  simp only [modelLayout, List.mem_cons, List.mem_nil_iff, or_false] at hrow
  rcases hrow with rfl | rfl | rfl | rfl | rfl | rfl | rfl | rfl | rfl | rfl | rfl
  · exact congrArg some (field_magic h r pad).symm
  · exact congrArg some (field_segsize h r pad).symm
  · exact congrArg some (field_version h r pad).symm
  · exact congrArg some (field_generation h r pad).symm
  · exact congrArg some (field_asOf h r pad).symm
  · exact congrArg some (field_voidAfter h r pad).symm
  · exact congrArg some (field_bound h r pad).symm
  · exact congrArg some (field_drift h r pad).symm
  · exact congrArg some (field_reserved h r pad).symm
  · exact congrArg some (field_status h r pad).symm
  · exact congrArg some (field_padding h r pad).symm

/-- status encoding 0 / 1 / 2 in a 32-bit word, and nothing else decodes -/
theorem status_codes :
    Status.unknown.code = 0 ∧ Status.synchronized.code = 1 ∧ Status.freeRunning.code = 2 ∧
    (∀ s : Status, Status.ofCode s.code = some s ∧ encU32 s.code = [s.code, 0, 0, 0]) ∧
    (∀ n, 2 < n → Status.ofCode n = none) := by
  refine ⟨rfl, rfl, rfl, ?_, ?_⟩
  · intro s; cases s <;> exact ⟨rfl, by decide⟩
  · intro n hn
    match n, hn with
    | n + 3, _ => rfl

/-! ### (2a) docs/PROTOCOL.md -/

/-- the document states native byte order -/
theorem doc_endianness : Protocol.endianness = "native" := by rfl

/-- field order, offsets, widths and total size of the document's diagram are the model's -/
theorem doc_layout_agrees : docLayout = some modelLayout ∧ docTotal = 72 := ⟨rfl, rfl⟩

/-- the type annotations of the description list agree with the model's element types (signedness
    and width), and each annotated width equals the width of the field's box in the diagram; of the
    magic number only the total width (8) is compared here -/
theorem doc_types_agree : docTypesAgree = true := by rfl

/-- how a reader of the document decodes the fields behind the magic number -/
theorem doc_plan : docPlan = some
    [("Segment Size", 8, [(false, 4)]), ("Version", 12, [(false, 2)]), ("Generation", 14, [(false, 2)]),
     ("As-Of Timestamp", 16, [(true, 8), (true, 8)]), ("Void-After Timestamp", 32, [(true, 8), (true, 8)]),
     ("Bound", 48, [(true, 8)]), ("Max Drift", 56, [(false, 4)]), ("Reserved", 60, [(false, 4)]),
     ("Clock Status", 64, [(true, 4)])] := by rfl

/-- the document's status values are the model's codes -/
theorem doc_status_agrees :
    Protocol.statusValues = [(Status.unknown.code, "Unknown"), (Status.synchronized.code, "Synchronized"),
                             (Status.freeRunning.code, "FreeRunning")] := by rfl

/-! ### (2b) the Rust definitions the descriptions describe -/

def reprAlign : String → Option Nat
  | "C" => some 1
  | "C, align(8)" => some 8
  | _ => none

def rustLayout (name : String) : Option (List (Nat × Nat) × Nat × Nat) :=
  match structTys rustAbi RustFfi.structs name, (RustFfi.structReprs.lookup name).bind reprAlign with
  | some ts, some a => some (reprC a ts)
  | _, _ => none

theorem rust_magic_agrees : RustFfi.shmMagic = [MAGIC0, MAGIC1] ∧ RustFfi.shmMagicElem = "u32" := by decide

/-- `#[repr(C, align(8))] ShmHeader`: members at 0 / 8 / 12 / 14, 16 bytes -/
theorem rust_header_layout : rustLayout "ShmHeader" = some ([(0, 8), (8, 4), (12, 2), (14, 2)], 16, 8) := by rfl

/-- `#[repr(C)] ClockErrorBound`: members at 0 / 16 / 32 / 40 / 44 / 48, 56 bytes of which the last
    four are tail padding -/
theorem rust_record_layout :
    rustLayout "ClockErrorBound" = some ([(0, 16), (16, 16), (32, 8), (40, 4), (44, 4), (48, 4)], 56, 8) := by rfl

/-- header members, then record members shifted by the header's size, then the tail padding: exactly
    the rows of the layout table -/
theorem rust_layout_is_model_layout :
    (match rustLayout "ShmHeader", rustLayout "ClockErrorBound" with
     | some (hf, hs, _), some (rf, rs, _) =>
       let last := (rf.map (fun p => p.1 + p.2)).foldl max 0
       some (hf ++ rf.map (fun p => (hs + p.1, p.2)) ++ [(hs + last, rs - last)], hs + rs)
     | _, _ => none)
    = some (modelLayout.map (·.2), 72) := by
  rw [rust_header_layout, rust_record_layout]
  rfl

/-- the members of the Rust record and header, in declaration order, are the documented fields in
    the documented order (same-size members must not trade places: offsets alone would not notice) -/
theorem rust_record_field_order :
    (RustFfi.structs.lookup "ClockErrorBound").map (fun fs => fs.map (·.1)) =
      some ["as_of", "void_after", "bound_nsec", "max_drift_ppb", "reserved1", "clock_status"] := by rfl

theorem rust_header_field_order :
    (RustFfi.structs.lookup "ShmHeader").map (fun fs => fs.map (·.1)) =
      some ["magic", "segsize", "version", "generation"] := by rfl

theorem rust_status_agrees :
    RustFfi.enums.lookup "ClockStatus" = some [("Unknown", Status.unknown.code),
      ("Synchronized", Status.synchronized.code), ("FreeRunning", Status.freeRunning.code)] := by rfl

/-! ### (2c) clockbound.h against the Rust FFI and the model -/

/-- both enums: same enumerators, same order, same values in the C header and in the Rust crate -/
theorem c_enums_agree :
    CHeader.enums.lookup "clockbound_err_kind" = RustFfi.enums.lookup "clockbound_err_kind" ∧
    CHeader.enums.lookup "clockbound_clock_status" = RustFfi.enums.lookup "clockbound_clock_status" ∧
    CHeader.enums.map (·.1) = ["clockbound_err_kind", "clockbound_clock_status"] := ⟨rfl, rfl, rfl⟩

/-- …and they are the model's codes -/
theorem c_err_kind_codes :
    CHeader.enums.lookup "clockbound_err_kind" = some
      [("CLOCKBOUND_ERR_NONE", ErrKind.none.code), ("CLOCKBOUND_ERR_SYSCALL", ErrKind.syscall.code),
       ("CLOCKBOUND_ERR_SEGMENT_NOT_INITIALIZED", ErrKind.notInit.code),
       ("CLOCKBOUND_ERR_SEGMENT_MALFORMED", ErrKind.malformed.code),
       ("CLOCKBOUND_ERR_CAUSALITY_BREACH", ErrKind.causality.code)] := by rfl

theorem c_status_codes :
    CHeader.enums.lookup "clockbound_clock_status" = some
      [("CLOCKBOUND_STA_UNKNOWN", Status.unknown.code), ("CLOCKBOUND_STA_SYNCHRONIZED", Status.synchronized.code),
       ("CLOCKBOUND_STA_FREE_RUNNING", Status.freeRunning.code)] := by rfl

/-- member names that differ between the header and the Rust struct without affecting the ABI -/
def memberRenames : List (String × String) := [("errno", "sys_errno")]

def memberNamesAgree (name : String) : Bool :=
  match CHeader.structs.lookup name, RustFfi.structs.lookup name with
  | some c, some r =>
    decide (c.map (·.1) = r.map (fun f => (memberRenames.lookup f.1).getD f.1))
  | _, _ => false

/-- both structs: same number of members, pairwise the same ABI type (so the same `repr(C)` layout),
    same member names up to `memberRenames` -/
theorem c_structs_agree :
    structTys cAbi CHeader.structs "clockbound_err" = some [.enum32, .i32, .ptr] ∧
    structTys rustAbi RustFfi.structs "clockbound_err" = some [.enum32, .i32, .ptr] ∧
    structTys cAbi CHeader.structs "clockbound_now_result" = some [.timespec, .timespec, .enum32] ∧
    structTys rustAbi RustFfi.structs "clockbound_now_result" = some [.timespec, .timespec, .enum32] ∧
    memberNamesAgree "clockbound_err" = true ∧ memberNamesAgree "clockbound_now_result" = true ∧
    CHeader.structs.map (·.1) = ["clockbound_err", "clockbound_now_result"] := by decide

def fnAbi (abi : String → Option AbiTy) (fs : List (String × List String × String)) :
    Option (List (String × List AbiTy × AbiTy)) :=
  fs.mapM fun (n, ps, ret) =>
    match ps.mapM abi, abi ret with
    | some p, some r => some (n, p, r)
    | _, _ => none

/-- the three entry points: same names, order, parameter and return ABI types -/
theorem c_functions_agree :
    fnAbi cAbi CHeader.functions = fnAbi rustAbi RustFfi.functions ∧
    fnAbi cAbi CHeader.functions = some
      [("clockbound_open", [.ptr, .ptr], .ptr), ("clockbound_close", [.ptr], .ptr),
       ("clockbound_now", [.ptr, .ptr], .ptr)] := by decide

/-- what a C compiler must report for clockbound.h (sizes, member offsets and sizes, enumerator
    values) if its layout is the Rust crate's; compared with `cc`'s answer on every run (`cabi`) -/
theorem abi_expected :
    expectedAbi = some ([16, 0, 4, 4, 4, 8, 8], [40, 0, 16, 16, 16, 32, 4], [0, 1, 2, 3, 4], [0, 1, 2]) := by rfl

/-! ### (3) the oracles hold of the model -/

/-- on the eight bytes of an encoded i64 the document's signed reading is `decI64` -/
theorem decElem_i64 (x : Int) (h : i64InRange x) : decElem (encI64 x) true = x := by
  refine Eq.trans ?_ (decI64_encI64 x h)
  unfold decElem decI64
  rw [show (encI64 x).length = 8 from length_encLE 8 _]
  exact if_pos rfl

theorem decElem_u (bs : Bytes) : decElem bs false = (decLE bs : Int) := rfl

theorem decElem_status (s : Status) : decElem (encU32 s.code) true = (s.code : Int) := by
  cases s <;> rfl

/-- the document's reading of the 56 bytes of a record -/
def decodedRecord (rec : Bytes) : List (String × List Int) :=
  [("As-Of Timestamp", [decElem (slice rec 0 8) true, decElem (slice rec 8 8) true]),
   ("Void-After Timestamp", [decElem (slice rec 16 8) true, decElem (slice rec 24 8) true]),
   ("Bound", [decElem (slice rec 32 8) true]), ("Max Drift", [decElem (slice rec 40 4) false]),
   ("Reserved", [decElem (slice rec 44 4) false]), ("Clock Status", [decElem (slice rec 48 4) true])]

theorem decodedRecord_encodeRecordP (r : Record) (pad : Bytes) (hr : r.inRange) :
    decodedRecord (encodeRecordP r pad) = recordFields r := by
  obtain ⟨h1, h2, h3, h4, h5, h6, h7⟩ := hr
  obtain ⟨e0, e1, e2, e3, e4, e5, e6, e7⟩ := slice_encodeRecordP r pad
  unfold decodedRecord recordFields
  rw [e0, e1, e2, e3, e4, e5, e6, e7, decElem_i64 _ h1, decElem_i64 _ h2, decElem_i64 _ h3, decElem_i64 _ h4,
    decElem_i64 _ h5, decElem_status, decElem_u, decElem_u, decLE_encU32 _ h6, decLE_encU32 _ h7]

/-- the document's reading of an image of 72 bytes or more: the header words, then the record area -/
theorem docDecode_eq (bs : Bytes) (hlen : 72 ≤ bs.length) :
    docDecode bs = some ([("Segment Size", [((parseHeader bs).segsize : Int)]),
      ("Version", [((parseHeader bs).version : Int)]), ("Generation", [((parseHeader bs).generation : Int)])] ++
      decodedRecord (slice bs 16 56)) := by
  unfold docDecode
  rw [doc_plan, doc_layout_agrees.2, if_neg (by omega)]
  simp (disch := decide) only [decodedRecord, slice_slice]
  rfl

/-- a reader built from the document alone decodes the published record from every image whose
    record area holds the encoder's bytes and whose header carries version 1, an even non-zero
    generation and a sufficient declared size -/
theorem holds_seg_of (bs : Bytes) (r : Record) (pad : Bytes) (rc : Bool) (hr : r.inRange)
    (hlen : 72 ≤ bs.length) (hrec : slice bs 16 56 = encodeRecordP r pad)
    (hv : (parseHeader bs).version = 1)
    (hg : (parseHeader bs).generation ≠ 0 ∧ (parseHeader bs).generation % 2 = 0)
    (hs : 72 ≤ (parseHeader bs).segsize)
    (hrc : rc = true → (parseHeader bs).segsize = 72 ∧ bs.length = 72) :
    HoldsSeg bs r rc = true := by
  unfold HoldsSeg
  rw [docDecode_eq bs hlen, hrec, decodedRecord_encodeRecordP r pad hr, hv]
  simp [recordFields, List.lookup, doc_layout_agrees.2]
  refine ⟨⟨hg.1, by omega⟩, by omega, ?_⟩
  cases rc with
  | false => exact Or.inl rfl
  | true =>
    obtain ⟨a, b⟩ := hrc rfl
    exact Or.inr ⟨by omega, by omega⟩

/-- in particular from the file the daemon leaves behind, whatever was at the path before (the same
    hypotheses as C16.repair_roundtrip: every prior state but a directory — a usable file that ended
    before byte 72 included, which start-up grows to 72 bytes) -/
theorem model_holds_seg (st : FileState) (r : Record) (pad : Bytes) (hd : st ≠ .directory) (hr : r.inRange) :
    ∃ bs' rc, startAndPublish st r pad = .ok (.file bs', rc) ∧ HoldsSeg bs' r rc = true := by
  obtain ⟨b, rc, hsp, ⟨hl, _, _, hs⟩, hcase⟩ := startAndPublish_spec st r pad hd
  have hW := parseHeader_takeOver b r pad hl
  have hlen := length_takeOver b r pad
  refine ⟨_, rc, hsp, holds_seg_of _ r pad rc hr (by omega) (slice_takeOver b r pad hl).2.2.2 ?_ ?_ ?_ ?_⟩
  · rw [hW]
  · -- `simp only` reduces the field of the rewritten header, so that the lemmas match without unfolding `genFinish`
    simp only [hW]
    exact ⟨genFinish_ne_zero _, genFinish_even _ (genStart_odd _)⟩
  · rw [hW]
    exact hs
  · rintro rfl
    rcases hcase with ⟨x, _⟩ | ⟨_, rfl, _⟩
    · cases x
    · rw [hW, hlen]
      decide

/-- the C library is the Rust code behind an `extern "C"` boundary: what it answers, given what the
    Rust client answers (a Rust panic cannot unwind through the boundary and aborts the process) -/
def cAnswerOf : NowAns → NowAns
  | .out .panic => .crash 6
  | a => a

theorem model_holds_sandwich (a : NowAns) (h : ∀ s, a ≠ .crash s) : HoldsSandwich a (cAnswerOf a) = true := by
  unfold HoldsSandwich cAnswerOf
  cases a with
  | crash s => exact absurd rfl (h s)
  | out o => cases o <;> simp
  | _ => simp

theorem model_holds_open (x : C16.Res ClientErr) : HoldsOpen (some x) (some x) = true := by
  simp [HoldsOpen]

theorem model_holds_abi :
    HoldsAbi ([16, 0, 4, 4, 4, 8, 8], [40, 0, 16, 16, 16, 32, 4], [0, 1, 2, 3, 4], [0, 1, 2]) = true :=
  decide_eq_true abi_expected

/-! ### non-vacuity -/

example : decodeSegment (encodeSegment ⟨MAGIC0, MAGIC1, 72, 1, 2⟩ ⟨⟨1, 2⟩, ⟨3, 4⟩, -5, 6, 7, .freeRunning⟩)
    = some (⟨MAGIC0, MAGIC1, 72, 1, 2⟩, ⟨⟨1, 2⟩, ⟨3, 4⟩, -5, 6, 7, .freeRunning⟩) := by decide +kernel
example : (encodeSegment ⟨MAGIC0, MAGIC1, 72, 1, 2⟩ ⟨⟨1, 2⟩, ⟨3, 4⟩, -5, 6, 7, .freeRunning⟩).take 16
    = [0x4E, 0x5A, 0x4D, 0x41, 0x00, 0x02, 0x42, 0x43, 0x48, 0, 0, 0, 1, 0, 2, 0] := by decide
example : HoldsSeg (encodeSegment ⟨MAGIC0, MAGIC1, 72, 1, 2⟩ ⟨⟨1, 2⟩, ⟨3, 4⟩, -5, 6, 7, .freeRunning⟩)
    ⟨⟨1, 2⟩, ⟨3, 4⟩, -5, 6, 7, .freeRunning⟩ true = true := by decide +kernel
/-- the oracle is not trivially true: a record shifted by one field, a big-endian image -/
example : HoldsSeg (encodeSegment ⟨MAGIC0, MAGIC1, 72, 1, 2⟩ ⟨⟨1, 2⟩, ⟨3, 4⟩, -5, 6, 7, .freeRunning⟩)
    ⟨⟨2, 3⟩, ⟨4, -5⟩, 6, 7, 2, .freeRunning⟩ true = false := by decide +kernel
example : HoldsSeg ((encodeSegment ⟨MAGIC0, MAGIC1, 72, 1, 2⟩ ⟨⟨1, 2⟩, ⟨3, 4⟩, -5, 6, 7, .freeRunning⟩).reverse)
    ⟨⟨1, 2⟩, ⟨3, 4⟩, -5, 6, 7, .freeRunning⟩ true = false := by decide +kernel
example : HoldsSandwich (.out (.ok ⟨1, 2⟩ ⟨3, 4⟩ .synchronized)) (.out (.ok ⟨1, 2⟩ ⟨3, 4⟩ .freeRunning)) = false := by decide
example : HoldsAbi ([24, 0, 4, 8, 4, 16, 8], [40, 0, 16, 16, 16, 32, 4], [0, 1, 2, 3, 4], [0, 1, 2]) = false := by decide

end ClockBound.C17

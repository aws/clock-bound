/-
  C01 through the shared-memory segment: the composition of C02 (what a reader can obtain from the
  segment) with C01.containment (what any published record guarantees).

  `C01.containment` is stated for "any record the history ever published"; that the client's snapshot IS
  such a record is the appeal to C02, made a theorem here:

  * `cells_roundtrip`, `cells_zero`, `cellsOf_bytes`: the seven words the seqlock copies are the 56 bytes of
    the published layout, and decoding them gives back the record (for machine-integer field values);
  * `snapshot_is_published`: in the composed system — the daemon of `Model/World.lean` handing each record it
    publishes to the writer machine of `Model/Seqlock.lean`, one arbitrary reader, every interleaving, every
    admissible stale load, crashes and restarts of the writer — whatever `snapshot()` returns decodes to the
    empty record or to a record the history published;
  * `pipeline_containment`: hence true time lies inside every trusted interval a client computes from a
    snapshot, end to end.
-/
import ClockBound.Model.Pipeline
import ClockBound.Properties.C01
import ClockBound.Properties.C02
import ClockBound.Proofs.Pipeline
namespace ClockBound.C01
open ClockBound ClockBound.SL ClockBound.Pipeline

/-- decoding the seven words of a record with machine-integer fields gives the record back -/
theorem cells_roundtrip (r : Record) (pad : Nat) (hr : r.inRange) (hp : pad < TWO32) :
    recordOfCells (cellsOf r pad) = some r :=
  Pipeline.Proofs.cells_roundtrip r pad hr hp

/-- the reader's initial (all-zero) cache decodes to the empty record, whose status is Unknown -/
theorem cells_zero : recordOfCells zerosN = some Record.empty := by decide

theorem cellsOf_length (r : Record) (pad : Nat) : (cellsOf r pad).length = N := rfl

/-- the seven words are the 56 bytes of the published layout (`Model/Header.lean`, C17) cut into
    native-endian 64-bit words -/
theorem cellsOf_bytes (r : Record) (pad : Nat) (hr : r.inRange) (hp : pad < TWO32) :
    cellsOf r pad = cellsOfBytes (encodeRecordP r (padOf pad)) :=
  Pipeline.Proofs.cellsOf_bytes r pad hr hp

/-- a trusted status never comes out of the empty record -/
theorem empty_record_untrusted (real mono e l : TimeSpec) (st : Status)
    (h : computeBoundAt Record.empty real mono = .ok e l st) : st = .unknown :=
  Pipeline.Proofs.empty_record_untrusted real mono e l st h

/-- The writer publishes what the daemon published: every record handed to `write` so far is the word
    image of a record of the history (with some padding), and so is the segment's pre-existing content
    (left by an earlier incarnation of the daemon, or empty). -/
structure Feeds (pub : List Record) (cells0 : List Nat) (s : Sys) : Prop where
  written : ∀ c ∈ s.written, ∃ r ∈ pub, ∃ pad, pad < TWO32 ∧ r.inRange ∧ c = cellsOf r pad
  initial : cells0 = zerosN ∨ ∃ r ∈ pub, ∃ pad, pad < TWO32 ∧ r.inRange ∧ cells0 = cellsOf r pad

/-- C02 + layout: whatever a reader obtains decodes to the empty record or to a published one. -/
theorem snapshot_is_published (a : Ann) (ha : a.adequate = true)
    (ver gen : Nat) (cells0 : List Nat) (hc : cells0.length = N) (hg : gen < 65536)
    (s : Sys) (hreach : Reachable a (Sys.init ver gen cells0) s)
    (hnowrap : ∀ t, Reachable a (Sys.init ver gen cells0) t → ∀ g1 retries got pm,
        t.r.pc = .gen2 g1 retries got → (load t.log t.r.view .gen a.rGen2 pm).1 = g1 →
        evenGenBetween t.log t.r.g1Idx (load t.log t.r.view .gen a.rGen2 pm).2.1 < 32767)
    (pub : List Record) (hfeeds : Feeds pub cells0 s) :
    ∀ c ∈ s.returned, ∃ r, recordOfCells c = some r ∧ (r = Record.empty ∨ r ∈ pub) :=
  Pipeline.Proofs.snapshot_is_published a ha ver gen cells0 hc hg s hreach hnowrap pub hfeeds.written hfeeds.initial

/-- End-to-end containment through the segment: a world satisfying the hypotheses of C01, any history,
    the writer machine fed with the published records, any reader schedule; for every record `snapshot()`
    returned and every client query on it whose status is Synchronized or FreeRunning, true time at the
    realtime read lies within [earliest − σ, latest + σ]. -/
theorem pipeline_containment (w : World) (hw : w.Good) (hrho : w.rho < 1000000000)
    (evs : List WEvent) (hev : ∀ e ∈ evs, e.ok w)
    (a : Ann) (ha : a.adequate = true)
    (ver gen : Nat) (cells0 : List Nat) (hc : cells0.length = N) (hg : gen < 65536)
    (s : Sys) (hreach : Reachable a (Sys.init ver gen cells0) s)
    (hnowrap : ∀ t, Reachable a (Sys.init ver gen cells0) t → ∀ g1 retries got pm,
        t.r.pc = .gen2 g1 retries got → (load t.log t.r.view .gen a.rGen2 pm).1 = g1 →
        evenGenBetween t.log t.r.g1Idx (load t.log t.r.view .gen a.rGen2 pm).2.1 < 32767)
    (hfeeds : Feeds (DaemonState.run w evs).published cells0 s)
    (c : List Nat) (hcret : c ∈ s.returned) (r : Record) (hdec : recordOfCells c = some r)
    (tr tm : Rat) (hrm : tr ≤ tm) (hafter : ∀ e ∈ evs, ∀ t, e.endTime = some t → t ≤ tr)
    (hR : 0 ≤ (w.Rc tr).floor ∧ (w.Rc tr).floor < 2147483648000000000)
    (hM : (w.Mc tm).floor < 2147483648000000000)
    (e l : TimeSpec) (st : Status)
    (hout : clientQuery w r tr tm = .ok e l st) (hst : st ≠ .unknown) :
    (e.toNs : Rat) - sigma w < tr ∧ tr < (l.toNs : Rat) + sigma w := by
  obtain ⟨r', hr', hcase⟩ := snapshot_is_published a ha ver gen cells0 hc hg s hreach hnowrap _ hfeeds c hcret
  have : r' = r := by rw [hdec] at hr'; exact (Option.some.inj hr').symm
  subst this
  rcases hcase with hempty | hpub
  · subst hempty
    exact absurd (empty_record_untrusted _ _ e l st hout) hst
  · exact containment w hw hrho evs hev r' hpub tr tm hrm hafter hR hM e l st hout hst

/-- non-vacuity of `Feeds`: a fresh segment and a writer that has written one published record -/
example : Feeds [Record.empty] zerosN { log := [], written := [cellsOf Record.empty 0] } :=
  ⟨by intro c hc; simp at hc; exact ⟨Record.empty, by simp, 0, by decide, by decide, hc⟩, Or.inl rfl⟩

end ClockBound.C01

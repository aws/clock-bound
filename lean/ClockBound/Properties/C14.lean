/-
  C14 — Client calls fail cleanly instead of answering from inconsistent data.
  Theorems about `computeBoundAt` (model of clock-bound-shm/src/lib.rs `compute_bound_at`).
-/
import ClockBound.Model.Oracles
import ClockBound.Proofs.Client
namespace ClockBound.C14
open ClockBound

/-- For all records and readings in the physically meaningful range the call never panics,
    aborts or overflows. -/
theorem no_panic (x : ClientIn) (h : x.meaningful = true) :
    computeBoundAt x.r x.real x.mono ≠ .panic := by
  rw [computeBoundAt_closed x (meaningful_spec h)]
  split_ifs <;> exact fun hh => Outcome.noConfusion hh

/-- a drift rate of 10^9 ppb or more yields the malformed-segment error, and nothing else does
    (this one needs no range hypothesis) -/
theorem malformed_iff (r : Record) (real mono : TimeSpec) :
    computeBoundAt r real mono = .malformed ↔ r.drift ≥ 1000000000 := by
  unfold computeBoundAt
  by_cases hd : r.drift ≥ 1000000000
  · simp [hd]
  · -- no branch after the drift test returns `malformed`
    simp only [hd, if_false, iff_false]
    repeat' split
    all_goals simp

/-- causality error exactly when the monotonic reading precedes as-of by the blur (1000 ns) or more -/
theorem causality_iff (x : ClientIn) (h : x.meaningful = true) (hd : x.r.drift < 1000000000) :
    computeBoundAt x.r x.real x.mono = .causality ↔ x.mono.toNs ≤ x.r.asOf.toNs - 1000 := by
  rw [computeBoundAt_closed x (meaningful_spec h), if_neg (by omega)]
  by_cases hc : x.mono.toNs ≤ x.r.asOf.toNs - 1000
  · rw [if_pos hc]
    exact iff_of_true rfl hc
  · rw [if_neg hc]
    exact iff_of_false (fun hh => Outcome.noConfusion hh) hc

/-- otherwise an interval is returned -/
theorem ok_otherwise (x : ClientIn) (h : x.meaningful = true) (hd : x.r.drift < 1000000000)
    (hc : x.r.asOf.toNs - 1000 < x.mono.toNs) :
    ∃ e l st, computeBoundAt x.r x.real x.mono = .ok e l st := by
  rw [computeBoundAt_closed x (meaningful_spec h), if_neg (by omega), if_neg (by omega)]
  exact ⟨_, _, _, rfl⟩

/-- inside the blur window the age is treated as zero: the half-width is the stored bound -/
theorem blur_age_zero (x : ClientIn) (h : x.meaningful = true) (hd : x.r.drift < 1000000000)
    (hc : x.r.asOf.toNs - 1000 < x.mono.toNs) (hb : x.mono.toNs < x.r.asOf.toNs) :
    ∃ e l st, computeBoundAt x.r x.real x.mono = .ok e l st ∧
      l.toNs - x.real.toNs = x.r.bound ∧ x.real.toNs - e.toNs = x.r.bound := by
  have ha : x.age = 0 := by rw [age_eq_max]; omega
  rw [computeBoundAt_closed x (meaningful_spec h), if_neg (by omega), if_neg (by omega), ha, growth_zero]
  exact ⟨_, _, _, rfl, by rw [ofNs_toNs]; omega, by rw [ofNs_toNs]; omega⟩

/-- the decidable statement used as oracle on the implementation holds of the model, for all inputs -/
theorem model_holds (x : ClientIn) : Holds x (computeBoundAt x.r x.real x.mono) = true := by
  refine holds_of_applicable fun h => ?_
  rw [computeBoundAt_closed x (meaningful_spec h)]
  by_cases hd : x.r.drift ≥ 1000000000
  · rw [if_pos hd, if_pos hd]; rfl
  rw [if_neg hd, if_neg hd]
  by_cases hc : x.mono.toNs ≤ x.r.asOf.toNs - 1000
  · rw [if_pos hc, if_pos hc]; rfl
  rw [if_neg hc, if_neg hc]
  split_ifs with hb
  · have ha : x.age = 0 := by rw [age_eq_max]; omega
    simp only [ha, growth_zero, ofNs_toNs, decide_eq_true_eq]
    omega
  · rfl

/-- non-vacuity: a concrete meaningful input on each branch -/
example : (⟨⟨⟨5,0⟩,⟨1005,0⟩,10000,50000,0,.synchronized⟩,⟨1700000000,7⟩,⟨4,999999001⟩⟩ : ClientIn).meaningful = true := by decide
example : computeBoundAt ⟨⟨5,0⟩,⟨1005,0⟩,10000,50000,0,.synchronized⟩ ⟨1700000000,7⟩ ⟨4,999999000⟩ = .causality := by decide
example : computeBoundAt ⟨⟨5,0⟩,⟨1005,0⟩,10000,50000,0,.synchronized⟩ ⟨1700000000,7⟩ ⟨4,999999001⟩
    = .ok ⟨1699999999,999990007⟩ ⟨1700000000,10007⟩ .synchronized := by decide +kernel

end ClockBound.C14

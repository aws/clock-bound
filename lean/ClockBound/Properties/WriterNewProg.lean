/-
  The operations `Crash.newOps` (`Model/WriterNewProg.lean`: `ShmWriter::new` in the shape of the Rust source)
  ARE the `new` part of `Crash.script`, the named events of the C04 crash sweep.
-/
import ClockBound.Model.WriterNewProg
namespace ClockBound.WriterNewProg
open ClockBound ClockBound.Crash

/-- `script` = the events of `ShmWriter::new`, then the six events of the first `write` -/
theorem script_split (f : FileA) : script f = newScript f ++ writeScript := by
  simp [script, newScript, writeScript]

/-- the state-changing operations of `new`, read as the events they are reported as, are exactly the
    operation events of `newScript`, in order: for an unusable prior `File::create`, the five header writes
    (magic 0, magic 1, size, version, generation), the zero fill, `sync_all`, then the version store; for a
    usable one the version store only (`create_dir_all` and the grow-in-place `set_len` have no event) -/
theorem newOps_script (f : FileA) (hasParent : Bool) :
    (newOps f hasParent).filterMap Op.ev = (newScript f).filter Ev.isOp := by
  unfold newScript newOps
  simp only [List.filter_append, List.filter_replicate, Ev.isOp, Bool.false_eq_true, if_false, List.filterMap_append]
  cases f.usable
  · cases hasParent <;> rfl
  · rw [if_pos rfl, if_pos rfl]
    split <;> rfl

/-- non-vacuity: the priors of the crash sweep — wiped and re-created, kept, grown in place -/
example :
    newOps Prior.missing.file false =
      [.create, .writeU32 .wipeMagic0 MAGIC0, .writeU32 .wipeMagic1 MAGIC1, .writeU32 .wipeSegsize 72,
       .writeU16 .wipeVersion 0, .writeU16 .wipeGeneration 0, .writeAll 56, .syncAll, .storeVersion 1] ∧
    newOps (Prior.foreign 4 1).file true = .createDirAll :: newOps Prior.missing.file false ∧
    newOps (Prior.valid 4 1).file false = [.storeVersion 1] ∧
    newOps { (Prior.valid 4 1).file with len := 40 } false = [.setLen 72, .storeVersion 1] := by decide

end ClockBound.WriterNewProg

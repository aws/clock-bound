/-
  C13 — Chronyd outages and PHC read failures degrade status on schedule.

  Subject: the model of clock-bound-d/src/chrony_poller.rs in Model/Poller.lean
  (`pollStep`, `Poller.run`).  Time = `Instant` readings in ns; `GRACE_NS` = 5 s.
  `Poller.msgAfter tStart refid pre it` is the message of iteration `it` when it runs after the
  iterations `pre` of a daemon whose poller was created at Instant `tStart` (`run_getElem` ties it
  to `Poller.run`).  `C13.lastAccepted pre` is the Instant at which the latest Tracking reply of
  `pre` was accepted (spec-level: it does not mention the poller's state).
-/
import ClockBound.Model.Poller
import ClockBound.Proofs.Poller
namespace ClockBound.C13
open ClockBound

/-- hypothesis "time readings are non-decreasing": all `Instant` readings the run makes, starting
    with the one in `ClockErrorBoundPoller::default()`, in program order -/
def Monotone (tStart : Int) (refid : Option Nat) (iters : List PollIter) : Prop :=
  nonDecreasing (Poller.readings tStart refid iters) = true

/-- `msgAfter` is the message at position `pre.length` of the run (as long as the thread is alive) -/
theorem run_getElem (tStart : Int) (refid : Option Nat) (pre post : List PollIter) (it : PollIter)
    (h : PollMsg.panic ∉ Poller.run tStart refid pre) :
    (Poller.run tStart refid (pre ++ it :: post))[pre.length]?
      = some (Poller.msgAfter tStart refid pre it) := by
  unfold Poller.run at h ⊢
  rw [Poller.runFrom_append refid pre (it :: post) _ h]
  have hl := Poller.runFrom_length_of_no_panic refid pre _ h
  rw [List.getElem?_append_right (by omega), hl, Nat.sub_self]
  unfold Poller.msgAfter
  simp only [Poller.runFrom]
  split
  · next hp => simp [hp]
  · simp

/-! ### silences -/

/-- every timing, no hypothesis on the clock: a silence (no reply or a non-Tracking reply) yields
    one of the two not-responding messages, the in-grace one iff the grace read is less than 5 s
    after the acceptance of the latest Tracking reply — or, if there was none, after
    `tStart − 5 s` (possible only if the clock ran backwards) -/
theorem silence_grace_iff_general (tStart : Int) (refid : Option Nat) (pre : List PollIter)
    (it : PollIter) (hs : it.reply.isSilence = true) :
    (Poller.msgAfter tStart refid pre it = .nrGrace ∨ Poller.msgAfter tStart refid pre it = .nr) ∧
    (Poller.msgAfter tStart refid pre it = .nrGrace ↔
      it.tGrace - (lastAccepted pre).getD (tStart - GRACE_NS) < GRACE_NS) ∧
    (Poller.msgAfter tStart refid pre it = .nr ↔
      GRACE_NS ≤ it.tGrace - (lastAccepted pre).getD (tStart - GRACE_NS)) := by
  rw [Poller.msgAfter_silence tStart refid pre it hs]
  split <;> simp <;> omega

/-- under non-decreasing readings the latest acceptance is not after the grace read: the "age" of
    the last good answer is a genuine, non-negative duration -/
theorem last_le_grace (tStart : Int) (refid : Option Nat) (pre : List PollIter) (it : PollIter)
    (hs : it.reply.isSilence = true) (hmono : Monotone tStart refid (pre ++ [it])) :
    tStart ≤ it.tGrace ∧ ∀ tL, lastAccepted pre = some tL → tL ≤ it.tGrace := by
  have hp := pairwise_of_nonDecreasing hmono
  rw [Poller.readings, List.flatMap_append, List.flatMap_cons, List.flatMap_nil, List.append_nil,
    PollIter.readings_silence refid it hs, List.pairwise_cons, List.pairwise_append] at hp
  refine ⟨hp.1 _ (List.mem_append_right _ (List.mem_singleton_self _)), fun tL hL => ?_⟩
  rcases foldl_accept_mem refid pre none tL hL with h | h
  · cases h
  · exact hp.2.2.2 tL h _ (List.mem_singleton_self _)

/-- C13, silences: for every sequence of iterations with non-decreasing readings, chronyd not
    answering yields the FreeRunning-class message exactly while the last good answer is less than
    5 s old, and the Unknown-class message exactly when it is 5 s old or older or there never was one -/
theorem silence_grace_iff (tStart : Int) (refid : Option Nat) (pre : List PollIter) (it : PollIter)
    (hs : it.reply.isSilence = true) (hmono : Monotone tStart refid (pre ++ [it])) :
    (Poller.msgAfter tStart refid pre it = .nrGrace ↔
      ∃ tL, lastAccepted pre = some tL ∧ 0 ≤ it.tGrace - tL ∧ it.tGrace - tL < GRACE_NS) ∧
    (Poller.msgAfter tStart refid pre it = .nr ↔
      lastAccepted pre = none ∨ ∃ tL, lastAccepted pre = some tL ∧ GRACE_NS ≤ it.tGrace - tL) := by
  obtain ⟨h0, hle⟩ := last_le_grace tStart refid pre it hs hmono
  rw [Poller.msgAfter_silence tStart refid pre it hs]
  cases hL : lastAccepted pre with
  | none => rw [if_neg (by simp; omega)]; simp
  | some tL =>
    have := hle tL hL
    rw [Option.getD_some]
    split <;> simp <;> omega

/-- before any Tracking reply was accepted, the latest-acceptance ghost is empty -/
theorem lastAccepted_none_of_silences (pre : List PollIter)
    (h : ∀ i ∈ pre, i.reply.isSilence = true) : lastAccepted pre = none := by
  unfold lastAccepted
  induction pre with
  | nil => rfl
  | cons i rest ih =>
    have : accept none i = none := by
      unfold accept
      cases hr : i.reply with
      | tracking t => have := h i List.mem_cons_self; rw [hr] at this; cases this
      | none => rfl
      | other => rfl
    rw [List.foldl_cons, this]
    exact ih fun j hj => h j (List.mem_cons_of_mem _ hj)

/-- sharp form: right after daemon start, with no answer ever received, a silence whose grace read
    is not before the poller's creation yields the Unknown-class message — at once, not after 5 s
    (`init = tStart − 5 s`) -/
theorem startup_never_grace_of_le (tStart : Int) (refid : Option Nat) (pre : List PollIter)
    (it : PollIter) (hpre : ∀ i ∈ pre, i.reply.isSilence = true) (hs : it.reply.isSilence = true)
    (hle : tStart ≤ it.tGrace) : Poller.msgAfter tStart refid pre it = .nr := by
  rw [Poller.msgAfter_silence tStart refid pre it hs, lastAccepted_none_of_silences pre hpre]
  exact if_neg (by simp; omega)

/-- C13, start-up: with non-decreasing readings, every silence before the first accepted Tracking
    reply yields the Unknown-class message -/
theorem startup_never_grace (tStart : Int) (refid : Option Nat) (pre : List PollIter)
    (it : PollIter) (hpre : ∀ i ∈ pre, i.reply.isSilence = true) (hs : it.reply.isSilence = true)
    (hmono : Monotone tStart refid (pre ++ [it])) : Poller.msgAfter tStart refid pre it = .nr :=
  startup_never_grace_of_le tStart refid pre it hpre hs (last_le_grace tStart refid pre it hs hmono).1

/-- what the hypothesis buys: if the clock ran backwards past the creation instant, the start-up
    silence is reported in-grace -/
theorem startup_grace_if_backwards (tStart : Int) (refid : Option Nat) (it : PollIter)
    (hs : it.reply.isSilence = true) (hlt : it.tGrace < tStart) :
    Poller.msgAfter tStart refid [] it = .nrGrace := by
  rw [Poller.msgAfter_silence tStart refid [] it hs]
  exact if_pos (by simp [lastAccepted]; omega)

/-- the whole run: a daemon that never gets a Tracking reply only ever sends the Unknown-class
    message, one per iteration -/
theorem startup_run_all_unknown (tStart : Int) (refid : Option Nat) (iters : List PollIter)
    (hall : ∀ i ∈ iters, i.reply.isSilence = true) (hmono : Monotone tStart refid iters) :
    Poller.run tStart refid iters = iters.map (fun _ => PollMsg.nr) := by
  unfold Poller.run
  rw [Poller.runFrom_silences refid _ iters hall]
  apply List.map_congr_left
  intro i hi
  -- the grace read is one of the readings after `tStart`
  have hle : tStart ≤ i.tGrace :=
    List.rel_of_pairwise_cons (pairwise_of_nonDecreasing hmono) (List.mem_flatMap.2
      ⟨i, hi, by rw [PollIter.readings_silence refid i (hall i hi)]; exact List.mem_singleton_self _⟩)
  rw [if_neg]
  rw [PollerState.withinGrace_iff]
  show ¬ i.tGrace - (tStart - GRACE_NS) < GRACE_NS
  omega

/-- a well-formed reply that is not Tracking counts as silence: same message, same state -/
theorem other_reply_is_silence (s : PollerState) (asOf : TimeSpec) (tReply tGrace : Int)
    (phc : Option PhcCfg) :
    pollStep s asOf .other tReply tGrace phc = pollStep s asOf .none tReply tGrace phc := rfl

/-! ### PHC -/

/-- the configured PHC is the reference of report `t` -/
def PhcMatches (phc : Option PhcCfg) (t : Tracking) : Prop :=
  ∃ cfg, phc = some cfg ∧ cfg.refid = t.refid

/-- C13, PHC term: the sysfs error bound is consulted exactly when a Tracking reply arrives and the
    configured reference id equals the report's; then a readable value `v` is attached to the
    report, and in every other case (no PHC configured, other reference id) the report is passed on
    with 0 — in any poller state and at any time -/
theorem phc_added_iff_refid_matches (s : PollerState) (asOf : TimeSpec) (reply : ReplyKind)
    (tReply tGrace : Int) (phc : Option PhcCfg) :
    (PollAction.readPhc ∈ pollActions reply phc ↔ ∃ t, reply = .tracking t ∧ PhcMatches phc t) ∧
    (∀ t, reply = .tracking t → ¬ PhcMatches phc t →
      (pollStep s asOf reply tReply tGrace phc).2 = .data t 0 asOf) ∧
    (∀ t cfg v, reply = .tracking t → phc = some cfg → cfg.refid = t.refid → cfg.file = .ok v →
      inI64 v = true → (pollStep s asOf reply tReply tGrace phc).2 = .data t v asOf) := by
  refine ⟨?_, ?_, ?_⟩
  · cases reply with
    | tracking t =>
      cases phc with
      | none => simp [pollActions, PhcMatches]
      | some cfg =>
        by_cases hm : cfg.refid = t.refid
        · simp [pollActions, PhcMatches, hm]
        · simp [pollActions, PhcMatches, hm]
    | none => simp [pollActions]
    | other => simp [pollActions]
  · intro t ht hno
    subst ht
    cases phc with
    | none => rfl
    | some cfg =>
      have hm : ¬ cfg.refid = t.refid := fun h => hno ⟨cfg, rfl, h⟩
      simp [pollStep, hm]
  · intro t cfg v ht hp hm hf hv
    subst ht; subst hp
    simp [pollStep, hm, hf, PhcFile.read, hv]

/-- C13, PHC failure: when the PHC is chronyd's reference and its error bound cannot be obtained,
    no data message is sent — the report is not used as a measurement. Unreadable file: one of the
    two PHC-failure messages; unparsable contents (or a value outside i64): the thread panics.
    The writer thread, for its part, leaves bound, as-of and the measurement flag untouched on a
    failure message. -/
theorem phc_failure_not_a_measurement (s : PollerState) (asOf : TimeSpec) (t : Tracking)
    (tReply tGrace : Int) (cfg : PhcCfg) (hm : cfg.refid = t.refid) :
    (cfg.file = .unreadable →
      (pollStep s asOf (.tracking t) tReply tGrace (some cfg)).2 = .phcGrace ∨
      (pollStep s asOf (.tracking t) tReply tGrace (some cfg)).2 = .phcFail) ∧
    (cfg.file.read = none → (pollStep s asOf (.tracking t) tReply tGrace (some cfg)).2 = .panic) ∧
    ((∀ v, cfg.file.read ≠ some (some v)) →
      (pollStep s asOf (.tracking t) tReply tGrace (some cfg)).2.isData = false) ∧
    (∀ (m : PollMsg) (now : Int) (w : Msg) (u u' : Updater) (r : Record),
      (m = .phcGrace ∨ m = .phcFail) → m.toWriter now = some w → u.step w = some (u', r) →
      u'.bound = u.bound ∧ u'.asOf = u.asOf ∧ u'.hasMeasurement = u.hasMeasurement ∧
      r.bound = u.bound ∧ r.asOf = u.asOf) := by
  refine ⟨?_, ?_, ?_, ?_⟩
  · intro hf
    simp only [pollStep, hm, if_true, hf, PhcFile.read]
    cases PollerState.withinGrace ⟨tReply⟩ tGrace
    · exact Or.inr rfl
    · exact Or.inl rfl
  · intro hf
    simp only [pollStep, hm, if_true, hf]
  · intro hf
    simp only [pollStep, hm, if_true]
    split
    · exact absurd ‹_› (hf _)
    · split <;> rfl
    · rfl
  · intro m now w u u' r hmsg hw hstep
    obtain ⟨g, rfl⟩ : ∃ g, w = .missing g := by
      rcases hmsg with rfl | rfl <;> exact ⟨_, (Option.some.inj hw).symm⟩
    simp only [Updater.step, Updater.record, bind, Option.bind] at hstep
    cases hc : chk (u.asOf.sec + 1000) with
    | none => simp [hc] at hstep
    | some v =>
      simp only [hc, Option.some.injEq, Prod.mk.injEq] at hstep
      obtain ⟨rfl, rfl⟩ := hstep
      exact ⟨rfl, rfl, rfl, rfl, rfl⟩

/-- C13, PHC failure timing. The grace test after a failed PHC read compares against the reply
    accepted *in this very iteration*: the not-in-grace message is sent iff the grace read is 5 s
    or more after that acceptance. Hence with the real poller, whenever the sysfs read takes less
    than 5 s (`hfast`), `PhcErrorBoundRetrievalFailed` cannot occur, whatever the earlier history;
    without that hypothesis it occurs exactly when `tGrace − tReply ≥ 5 s`. -/
theorem nongrace_phc_failure_unreachable (s : PollerState) (asOf : TimeSpec) (t : Tracking)
    (tReply tGrace : Int) (cfg : PhcCfg) (hm : cfg.refid = t.refid) (hf : cfg.file = .unreadable) :
    (tGrace - tReply < GRACE_NS →
      (pollStep s asOf (.tracking t) tReply tGrace (some cfg)).2 = .phcGrace) ∧
    ((pollStep s asOf (.tracking t) tReply tGrace (some cfg)).2 = .phcFail ↔
      GRACE_NS ≤ tGrace - tReply) := by
  simp only [pollStep, hm, if_true, hf, PhcFile.read, PollerState.withinGrace_iff]
  split <;> simp <;> omega

/-- so, in a run: a PHC read failure is always reported in-grace when the sysfs read is fast, even
    if chronyd had been silent for hours before this reply -/
theorem phc_failure_in_grace_in_run (tStart : Int) (refid : Nat) (pre : List PollIter) (it : PollIter)
    (t : Tracking) (hr : it.reply = .tracking t) (hm : refid = t.refid) (hf : it.file = .unreadable)
    (hfast : it.tGrace - it.tReply < GRACE_NS) :
    Poller.msgAfter tStart (some refid) pre it = .phcGrace := by
  unfold Poller.msgAfter PollIter.step
  rw [hr]
  exact (nongrace_phc_failure_unreachable _ it.asOf t it.tReply it.tGrace ⟨refid, it.file⟩ hm hf).1 hfast

/-! ### the oracle -/

/-- the decidable statement of C13 (the one `cbmodel` evaluates on the implementation's messages)
    holds of the model's messages, for every start instant, PHC configuration and sequence of
    iterations — monotone or not -/
theorem model_holds (tStart : Int) (refid : Option Nat) (iters : List PollIter) :
    Holds tStart refid iters (Poller.run tStart refid iters) = true :=
  holdsFrom_runFrom tStart refid iters none (Poller.init tStart) rfl

/-! ### non-vacuity -/

private def trk (refid : Nat) : Tracking :=
  { leap := 0, refNs := 0, offW := 0, dispW := 0, delayW := 0, intervalW := 0, refid := refid }

/-- start-up silence, an answer at 2 s, then silences 5 s − 1 ns, 5 s and 5 s + 1 ns later -/
example : Poller.run 1000000000 none
    [⟨⟨1, 0⟩, .none, 0, 1000000000, .unreadable⟩,
     ⟨⟨2, 0⟩, .tracking (trk 0), 2000000000, 0, .unreadable⟩,
     ⟨⟨3, 0⟩, .none, 0, 6999999999, .unreadable⟩,
     ⟨⟨4, 0⟩, .other, 0, 7000000000, .unreadable⟩,
     ⟨⟨5, 0⟩, .none, 0, 7000000001, .unreadable⟩]
    = [.nr, .data (trk 0) 0 ⟨2, 0⟩, .nrGrace, .nr, .nr] := by decide

example : Monotone 1000000000 none
    [⟨⟨1, 0⟩, .none, 0, 1000000000, .unreadable⟩,
     ⟨⟨2, 0⟩, .tracking (trk 0), 2000000000, 0, .unreadable⟩,
     ⟨⟨3, 0⟩, .none, 0, 6999999999, .unreadable⟩] := by unfold Monotone; decide

/-- PHC: matching id adds the value, id off by one adds 0, unreadable file is a failure message,
    unparsable contents kill the thread and nothing after is sent -/
example : Poller.run 0 (some 7)
    [⟨⟨1, 0⟩, .tracking (trk 7), 10, 20, .ok 12345⟩,
     ⟨⟨2, 0⟩, .tracking (trk 8), 30, 40, .ok 12345⟩,
     ⟨⟨3, 0⟩, .tracking (trk 7), 50, 60, .unreadable⟩,
     ⟨⟨4, 0⟩, .tracking (trk 7), 70, 70 + 5000000000, .unreadable⟩,
     ⟨⟨5, 0⟩, .tracking (trk 7), 80, 90, .unparsable⟩,
     ⟨⟨6, 0⟩, .tracking (trk 7), 100, 110, .ok 1⟩]
    = [.data (trk 7) 12345 ⟨1, 0⟩, .data (trk 8) 0 ⟨2, 0⟩, .phcGrace, .phcFail, .panic] := by decide

/-- the oracle is not trivially true: it rejects an in-grace message at start-up, a data message
    on a PHC failure, a missing PHC term and a late in-grace message -/
example : Holds 0 none [⟨⟨1, 0⟩, .none, 0, 5, .unreadable⟩] [.nrGrace] = false := by decide
example : Holds 0 (some 7) [⟨⟨1, 0⟩, .tracking (trk 7), 10, 20, .unreadable⟩]
    [.data (trk 7) 0 ⟨1, 0⟩] = false := by decide
example : Holds 0 (some 7) [⟨⟨1, 0⟩, .tracking (trk 7), 10, 20, .ok 5⟩]
    [.data (trk 7) 0 ⟨1, 0⟩] = false := by decide
example : Holds 0 none [⟨⟨1, 0⟩, .tracking (trk 0), 10, 20, .unreadable⟩,
    ⟨⟨2, 0⟩, .none, 0, 5000000010, .unreadable⟩] [.data (trk 0) 0 ⟨1, 0⟩, .nrGrace] = false := by decide

end ClockBound.C13

/-
  C12 — Clock reads are ordered so that delays only make the bound more pessimistic.
-/
import ClockBound.Model.World
import ClockBound.Proofs.World
import ClockBound.Properties.C01
namespace ClockBound.C12
open ClockBound

/-- (i) the modelled order of reads (tied to the code by the interposer's read log on every run) -/
theorem client_reads_realtime_first : clientReads = [.realtime, .monoCoarse] := rfl
theorem poller_reads_monotonic_before_query : pollerReads = [.monoCoarse, .query] := rfl

/-- (ii-a) client side: any delay between the realtime read and the monotonic read only widens the
    interval: the half-width is monotone in the monotonic reading -/
theorem client_delay_widens (r : Record) (real m1 m2 : TimeSpec) (e1 l1 e2 l2 : TimeSpec) (s1 s2 : Status)
    (hx : (⟨r, real, m1⟩ : ClientIn).meaningful = true) (hd : r.drift < 1000000000)
    (h2 : m2.inRange = true) (hle : m1.toNs ≤ m2.toNs)
    (o1 : computeBoundAt r real m1 = .ok e1 l1 s1) (o2 : computeBoundAt r real m2 = .ok e2 l2 s2) :
    l1.toNs - real.toNs ≤ l2.toNs - real.toNs ∧ e2.toNs ≤ e1.toNs := by
  have _ := hd
  have := width_mono (y := ⟨r, real, m2⟩) hx (meaningful_withMono hx h2) rfl rfl
    (by simp only []; omega) o1 o2
  simp only [] at this
  omega

/-- (ii-b) daemon side: an earlier as-of reading (a longer delay before chronyd answers) only widens
    the interval a client later computes from the same report -/
theorem daemon_delay_widens (r1 r2 : Record) (real mono : TimeSpec) (e1 l1 e2 l2 : TimeSpec) (s1 s2 : Status)
    (hsame : r2 = { r1 with asOf := r2.asOf, voidAfter := r2.voidAfter })
    (hx1 : (⟨r1, real, mono⟩ : ClientIn).meaningful = true) (hx2 : (⟨r2, real, mono⟩ : ClientIn).meaningful = true)
    (hd : r1.drift < 1000000000) (hle : r2.asOf.toNs ≤ r1.asOf.toNs)
    (o1 : computeBoundAt r1 real mono = .ok e1 l1 s1) (o2 : computeBoundAt r2 real mono = .ok e2 l2 s2) :
    l1.toNs - real.toNs ≤ l2.toNs - real.toNs := by
  have _ := hd
  exact (width_mono hx1 hx2 (by rw [hsame]) (by rw [hsame]) (by simp only []; omega) o1 o2).1

-- (ii-c) C01 needs only `ta ≤ tq` and `tr ≤ tm` as ordering facts about the reads, so it holds for
-- every amount of delay: that is `C01.containment` itself (hypotheses `WEvent.ok` and `hrm`).

/-- a realtime clock gaining exactly ρ = 50 ppm on an ideal monotonic clock -/
def driftWorld : World := ⟨fun t => t + t * 50000 / 1000000000, fun t => t, 50000⟩

/-- a report with offset 0, delay 0, dispersion 2^-20 s (954 ns), 16 s update interval -/
def report : Tracking :=
  { leap := 0, refNs := 0, offW := 0, dispW := 3699376128, delayW := 0, intervalW := 209715200 }

/-- `driftWorld` satisfies the clock hypotheses of C01 (with equality in the drift bound) -/
theorem driftWorld_good : driftWorld.Good := by
  refine ⟨fun _ _ h => h, fun t1 t2 h => ?_⟩
  dsimp only [driftWorld]
  push_cast
  constructor <;> linarith

theorem mem_of_eq_singleton {l : List Record} {r : Record} (h : l = [r]) : r ∈ l :=
  h ▸ List.mem_singleton_self r

/-- the clock is exact at 0 s, so the report is valid there -/
theorem report_valid : reportValid driftWorld 0 report 0 := by
  show absR _ ≤ _
  decide +kernel

/-- 22 s later the clock has gained 1.1 ms; an interval of half-width 954 ns + 100 ns (2 s of
    growth) around its reading misses true time, σ included -/
theorem interval_misses :
    ¬ (((⟨22, 999046⟩ : TimeSpec).toNs : Rat) - sigma driftWorld < 22000000000 ∧
      (22000000000 : Rat) < ((⟨22, 1200954⟩ : TimeSpec).toNs : Rat) + sigma driftWorld) := by
  intro h
  have h1 := h.1
  revert h1
  decide +kernel

/-- (iii) necessity, daemon side: if the as-of reading were taken AFTER chronyd answered, there is a
    world satisfying every other hypothesis in which containment fails. -/
theorem asof_after_query_breaks :
    ∃ (w : World) (ta tq tp tr tm : Rat) (t : Tracking),
      w.Good ∧ tq < ta ∧ ta ≤ tp ∧ tp ≤ tr ∧ tr ≤ tm ∧ reportValid w tq t 0 ∧
      classify t (w.Rc tp).floor = .synchronized ∧
      ∃ r e l st, r ∈ (DaemonState.run w [.poll ta tq tp (some t) 0 false]).published ∧
        clientQuery w r tr tm = .ok e l st ∧ st ≠ .unknown ∧
        ¬ ((e.toNs : Rat) - sigma w < tr ∧ tr < (l.toNs : Rat) + sigma w) := by
  -- chronyd answers at 0 s (clock exact there), as-of is read 20 s later, the client asks at 22 s:
  -- the growth term covers 2 s of drift instead of 22 s, and 20 s · 50 ppm = 1 ms is missing
  exact ⟨driftWorld, 20000000000, 0, 20000000000, 22000000000, 22000000000, report,
    driftWorld_good, by norm_num, by norm_num, by norm_num, by norm_num, report_valid,
    by decide +kernel,
    ⟨⟨20, 0⟩, ⟨1020, 0⟩, 954, 50000, 0, .synchronized⟩, ⟨22, 999046⟩, ⟨22, 1200954⟩, .synchronized,
    mem_of_eq_singleton (by decide +kernel), by decide +kernel, by decide, interval_misses⟩

/-- (iii) necessity, client side: if the monotonic clock were read BEFORE the realtime clock … -/
theorem mono_before_realtime_breaks :
    ∃ (w : World) (ta tq tp tr tm : Rat) (t : Tracking),
      w.Good ∧ ta ≤ tq ∧ tq ≤ tp ∧ tp ≤ tm ∧ tm < tr ∧ reportValid w tq t 0 ∧
      classify t (w.Rc tp).floor = .synchronized ∧
      ∃ r e l st, r ∈ (DaemonState.run w [.poll ta tq tp (some t) 0 false]).published ∧
        clientQuery w r tr tm = .ok e l st ∧ st ≠ .unknown ∧
        ¬ ((e.toNs : Rat) - sigma w < tr ∧ tr < (l.toNs : Rat) + sigma w) := by
  -- the whole poll happens at 0 s; the client reads the monotonic clock at 2 s and the realtime
  -- clock only at 22 s: again 20 s · 50 ppm = 1 ms of drift is not covered
  exact ⟨driftWorld, 0, 0, 0, 22000000000, 2000000000, report,
    driftWorld_good, by norm_num, by norm_num, by norm_num, by norm_num, report_valid,
    by decide +kernel,
    ⟨⟨0, 0⟩, ⟨1000, 0⟩, 954, 50000, 0, .synchronized⟩, ⟨22, 999046⟩, ⟨22, 1200954⟩, .synchronized,
    mem_of_eq_singleton (by decide +kernel), by decide +kernel, by decide, interval_misses⟩

end ClockBound.C12

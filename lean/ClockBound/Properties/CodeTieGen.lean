/-
  Translation tie, part 6: the generation protocol of `ShmWrite for ShmWriter::write`
  (clock-bound-shm/src/writer.rs) — the first group that uses loops/effects machinery: an extension
  dictionary (`Rs/DictDemo.lean`) and the input stream.

  For EVERY generation value `g` the writer reads from the segment (`inp 0 = g`, a `u16`; no range
  hypothesis is needed), every record and every environment, the AST regenerated from the Rust source,
  run by the interpreter with the dictionary `DictDemo.ext`, performs exactly these shared accesses, in
  this order, with these memory orderings:

      load  generation            Acquire   ↦ g
      store generation := genStart g              Release
      fence                                       Release
      write of the record to `ceb` (the argument of `write`, unchanged)
      store generation := genFinish (genStart g)  Release

  where `genStart`/`genFinish` are the MODEL's functions (`Model/Daemon.lean`, used by `SL.wStep`,
  `Model/Seqlock.lean`) and the orderings are those of the model's default annotation `SL.Ann` — i.e. the
  writer program that `SL.wStep` executes (`loadGen`, `store1`, `fence`, `copy`, `store2`) is the program the
  code runs.  It returns `()`, leaves `self` unchanged, consumes exactly one input, never panics and never
  gets stuck.  (the block `{ &*self.generation }` evaluates through the dictionary's `deref` rule to the
  atomic cell `generation`; the `#[cfg(clock_bound_verif)]` statements are dropped by the translator.)
-/
import ClockBound.Proofs.RsGen
namespace ClockBound.CodeTieGen
open ClockBound ClockBound.Rs ClockBound.Generated ClockBound.Rs.DictDemo

/-- the model's default annotation: the orderings `SL.wStep` uses unless told otherwise -/
def ann : SL.Ann := {}

open scoped ClockBound.Rs.CallByValue

theorem write_events_eq (g : Nat) (r : Record) (segsize : Nat) (nowNs : Int) (sizes : List (String × Nat))
    (inp : Nat → Value) (h0 : inp 0 = .int .u16 g) :
    run (Code.ctxWith nowNs DictDemo.ext sizes inp) "ShmWrite for ShmWriter::write" (writerValue segsize)
      [recordValue r]
    = .ok .unit (writerValue segsize)
        [evLoad "generation" (ordValue ann.wLoad) (.int .u16 g),
         evStore "generation" (.int .u16 (genStart g)) (ordValue ann.wStore1),
         evFence (ordValue (ann.wFence.getD .relaxed)),
         evDataWrite "ceb" (recordValue r),
         evStore "generation" (.int .u16 (genFinish (genStart g))) (ordValue ann.wStore2)] := by
  -- the interpreter leaves one test `gen & 1 == 0` and one `if gen == 0`; the two parities of `g` are then arithmetic
  simp only [recordValue, writerValue, DictDemo.ext, ordering, ordValue, ann]
  simp -implicitDefEqProofs only [rs_eval, rs_base, rs_code, h0]
  rw [genFinish_int, genStart_int]
  have e1 : ((g : Int) + 1 + 1) % 65536 = (((g : Int) + 1) % 65536 + 1) % 65536 := by omega
  split_ifs <;> first | rfl | omega | simp_all

/-- the default annotation does have a writer fence (so the `getD` above is not the fallback) and is the
    one for which the seqlock properties are proved -/
example : ann.wFence = some .release ∧ ann.adequate = true := by decide

/-- the generated code never leaves the fragment the interpreter and the dictionary have rules for -/
theorem write_not_stuck (g : Nat) (r : Record) (segsize : Nat) (nowNs : Int) (sizes : List (String × Nat))
    (inp : Nat → Value) (h0 : inp 0 = .int .u16 g) :
    (run (Code.ctxWith nowNs DictDemo.ext sizes inp) "ShmWrite for ShmWriter::write" (writerValue segsize)
      [recordValue r]).isStuck = false := by
  rw [write_events_eq g r segsize nowNs sizes inp h0]
  rfl

/-- without the dictionary the same function is stuck at its first shared access: the rules above are
    what gives the atomics a meaning (non-vacuity of the dictionary) -/
example : (run (Code.ctx 0) "ShmWrite for ShmWriter::write" (writerValue 72)
    [recordValue ⟨⟨1, 2⟩, ⟨3, 4⟩, 5, 6, 0, .synchronized⟩]).isStuck = true := by
  simp -implicitDefEqProofs only [rs_eval, rs_base, rs_code, recordValue, Outcome.isStuck]

/-- the arithmetic on an example: an even generation, an odd (interrupted) one, and the roll-over that
    skips 0 -/
example : (genStart 4, genFinish (genStart 4)) = (5, 6) ∧ (genStart 7, genFinish (genStart 7)) = (7, 8) ∧
    (genStart 65534, genFinish (genStart 65534)) = (65535, 2) := by decide

end ClockBound.CodeTieGen

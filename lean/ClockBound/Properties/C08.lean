/-
  C08 — Published record tracks the chrony history: freeze on loss, advance on sync.
-/
import ClockBound.Model.OraclesD
import ClockBound.Proofs.Daemon
namespace ClockBound.C08
open ClockBound

theorem agrees_self (seen : Bool) (r : Record) : agrees seen r r = true := by
  simp [agrees, TimeSpec.beq_self, Status.beq_self]

/-- every outcome results in a publication -/
theorem one_publication_per_outcome (drift : Nat) (msgs : List Msg) (hok : ∀ m ∈ msgs, m.ok = true) :
    (Updater.run (Updater.new drift) msgs).length = msgs.length := by
  exact Updater.run_length (u := Updater.new drift) rfl hok

/-- Refinement to the one-line spec: for every finite message list from a fresh updater the k-th
    published record is `spec` of the first k+1 outcomes. -/
theorem refinement (drift : Nat) (msgs : List Msg) (hok : ∀ m ∈ msgs, m.ok = true) :
    Updater.run (Updater.new drift) msgs = specs drift (msgs.map abstractMsg) := by
  apply List.ext_getElem
  · simp [specs, one_publication_per_outcome drift msgs hok]
  · intro k h1 _
    rw [Updater.run_new_getElem? (List.getElem?_eq_getElem h1)]
    simp [specs]

/-- (c) every published record carries the configured drift rate -/
theorem drift_published (drift : Nat) (msgs : List Msg) :
    ∀ r ∈ Updater.run (Updater.new drift) msgs, r.drift = drift := by
  intro r hr
  obtain ⟨k, rfl⟩ := Updater.mem_run_new hr
  rfl

/-- (b) void-after is 1000 s after as-of, rounded down to a whole second -/
theorem void_after (drift : Nat) (msgs : List Msg) :
    ∀ r ∈ Updater.run (Updater.new drift) msgs, r.voidAfter = ⟨r.asOf.sec + 1000, 0⟩ := by
  intro r hr
  obtain ⟨k, rfl⟩ := Updater.mem_run_new hr
  rfl

theorem model_holds (drift : Nat) (msgs : List Msg) (hok : ∀ m ∈ msgs, m.ok = true) :
    Holds drift (msgs.map abstractMsg) (Updater.run (Updater.new drift) msgs) = true := by
  have hlen := one_publication_per_outcome drift msgs hok
  simp only [Holds, Bool.and_eq_true, beq_iff_eq, List.all_eq_true, List.mem_range, List.length_map]
  refine ⟨hlen, fun k hk => ?_⟩
  have hr := List.getElem?_eq_getElem (hlen ▸ hk)
  rw [hr, Updater.run_new_getElem? hr]
  exact agrees_self _ _

end ClockBound.C08

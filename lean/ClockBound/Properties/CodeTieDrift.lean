/-
  Translation tie, part 5: the `--max-drift-rate` ppm → ppb conversion of `main`
  (clock-bound-d/src/main.rs).

  `main` as a whole is outside the fragment the interpreter runs (clap, tracing set-up, threads); the
  conversion is the initialiser of its top-level `let max_drift_ppb = ..;`.  That sub-expression is
  located BY NAME in the regenerated AST of `main` (`Rs.findLet`), so the statement does not refer to a
  position, and it is evaluated with `args.max_drift_rate` bound to the option given on the command
  line.  It yields `driftPpb`: the ppb value as a `u32`, or — where the model says `none` — `main`
  returns `Err(<message>)`.  If the conversion is moved into a helper function that the `let` calls,
  the same statement covers the helper (calls are inlined).
-/
import ClockBound.Proofs.RsLemmas
import ClockBound.Generated.Code
namespace ClockBound.CodeTieDrift
open ClockBound ClockBound.Rs ClockBound.Generated

open scoped ClockBound.Rs.CallByValue

theorem max_drift_ppb_eq (rate : Option Nat) (nowNs : Int) :
    (findLet "max_drift_ppb" Code.fn_main__main.body).map
      (fun e => evalIn (Code.ctx nowNs) "main" "" e [("args", cliValue rate)])
    = some (driftRes ⟨[("args", cliValue rate)], []⟩ (driftPpb rate)) := by
  cases rate with
  | none => simp -implicitDefEqProofs only [rs_eval, rs_base, rs_code, cliValue, driftPpb, driftRes]
  | some r =>
    simp -implicitDefEqProofs only [rs_eval, rs_base, rs_code, cliValue, driftPpb]
    split_ifs <;> first | omega | simp [driftRes]

example : driftPpb (some 4294967) = some 4294967000 ∧ driftPpb (some 4294968) = none := by decide

end ClockBound.CodeTieDrift

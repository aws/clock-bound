/-
  C09 — No trust is advertised before a first measurement exists.
-/
import ClockBound.Model.OraclesD
import ClockBound.Proofs.Daemon
namespace ClockBound.C09
open ClockBound

theorem holdsAt_spec (drift : Nat) (h : List PollOutcome) : HoldsAt h (C08.spec drift h) = true := by
  unfold HoldsAt C08.spec
  cases lastSync h with
  | none => rfl
  | some x => simp [TimeSpec.beq_self]

/-- a status other than Unknown is only ever published with the bound and as-of of the most
    recent synchronised report -/
theorem model_holds (drift : Nat) (msgs : List Msg) :
    Holds (msgs.map abstractMsg) (Updater.run (Updater.new drift) msgs) = true := by
  unfold Holds
  rw [List.all_eq_true]
  intro k _
  cases hr : (Updater.run (Updater.new drift) msgs)[k]? with
  | none => rfl
  | some r => rw [Updater.run_new_getElem? hr]; exact holdsAt_spec drift _

/-- from daemon start until the first synchronised report, whatever chronyd answers, every
    published record says Unknown -/
theorem unknown_until_first_sync (drift : Nat) (msgs : List Msg)
    (h : lastSync (msgs.map abstractMsg) = none) :
    ∀ r ∈ Updater.run (Updater.new drift) msgs, r.status = .unknown := by
  intro r hr
  obtain ⟨k, rfl⟩ := Updater.mem_run_new hr
  have : lastSync ((msgs.map abstractMsg).take (k + 1)) = none := by
    rw [lastSync_eq_none_iff] at h ⊢
    exact fun o ho => h o (List.mem_of_mem_take ho)
  simp [C08.spec, this]

/-- and the client reports Unknown for such a record at every uptime -/
theorem client_sees_unknown (r : Record) (h : r.status = .unknown) (real mono e l : TimeSpec)
    (st : Status) (hout : computeBoundAt r real mono = .ok e l st) : st = .unknown :=
  computeBoundAt_unknown h hout

/-- non-vacuity: a leap-3 report and an in-grace silence right after start publish Unknown -/
example : (Updater.run (Updater.new 1000)
    [.data { leap := 3, refNs := 0, offW := 0, dispW := 0, delayW := 0, intervalW := 0 } 0 ⟨100, 0⟩ 5,
     .missing true]).map (·.status) = [.unknown, .unknown] := by decide +kernel

end ClockBound.C09

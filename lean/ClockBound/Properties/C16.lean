/-
  C16 — Segment files are validated on open, and repaired by the daemon.

  Model: Model/Header.lean (`readerOpen` = `ShmReader::new`, `writerNew` = `ShmWriter::new`,
  `writerFirstWrite` = the first `ShmWriter::write`, `snapshotOfFile` = a fresh reader's first
  snapshot).  Quantifiers: every list of bytes (of any length; the elements need not even be < 256)
  as the prior content, the three kinds of path, every in-range record, every content of the four
  padding bytes the record copy carries along.
-/
import ClockBound.Model.OraclesH
import ClockBound.Proofs.Header
namespace ClockBound.C16
open ClockBound

/-! ### opening -/

/-- a regular file opens exactly when it has a whole header, the magic number, a non-zero version,
    a non-zero generation and a declared size of at least 16 + 56 (its real length does not matter
    beyond the 16 header bytes) -/
theorem open_ok_iff (bs : Bytes) (h : Header) :
    readerOpen (.file bs) = .ok h ↔
      16 ≤ bs.length ∧ h = parseHeader bs ∧ h.magic0 = MAGIC0 ∧ h.magic1 = MAGIC1 ∧
      h.version ≠ 0 ∧ h.generation ≠ 0 ∧ 72 ≤ h.segsize := readerOpen_ok_iff bs h

/-- with an address-space limit (`lim = some L`: `mmap` grants at most `L` bytes) the declared size
    must in addition fit; this is the only way a huge declared size can fail -/
theorem open_ok_iff_lim (L : Nat) (bs : Bytes) (h : Header) :
    readerOpenLim (some L) (.file bs) = .ok h ↔ readerOpen (.file bs) = .ok h ∧ h.segsize ≤ L := by
  rw [readerOpenLim_some_file, readerOpen_file]
  grind

/-- observed on the 64-bit host without such a limit: a declared size of 2^32 − 1 on a 72-byte file
    opens (the mapping extends past the end of the file; only touching it there would fault) -/
example : (readerOpen (.file (encodeSegment ⟨MAGIC0, MAGIC1, 4294967295, 1, 2⟩ Record.empty))).isOk = true := by
  decide

/-- otherwise the error is that of the first failing check: not-initialised for a short file, a wrong
    magic number, version 0 or generation 0 (whatever the declared size says), malformed for a
    declared size below 72 -/
theorem open_error_kind (bs : Bytes) :
    (bs.length < 16 ∨ ¬ ((parseHeader bs).magic0 = MAGIC0 ∧ (parseHeader bs).magic1 = MAGIC1) ∨
        (parseHeader bs).version = 0 ∨ (parseHeader bs).generation = 0 →
      readerOpen (.file bs) = .error .notInit) ∧
    (16 ≤ bs.length ∧ (parseHeader bs).magic0 = MAGIC0 ∧ (parseHeader bs).magic1 = MAGIC1 ∧
        (parseHeader bs).version ≠ 0 ∧ (parseHeader bs).generation ≠ 0 ∧ (parseHeader bs).segsize < 72 →
      readerOpen (.file bs) = .error .malformed) := by
  rw [readerOpen_file]
  grind

/-- a missing file: the failing system call is `open`, errno ENOENT -/
theorem open_missing : readerOpen .missing = .error (.sys 2 .open_) := rfl

/-- a directory: `open` succeeds, the failing system call is the header `read`, errno EISDIR -/
theorem open_directory : readerOpen .directory = .error (.sys 21 .read) := rfl

/-- under an address-space limit the additional outcome is ENOMEM from `mmap` -/
theorem open_mmap_refused (L : Nat) (bs : Bytes) (h : Header) (hok : readerOpen (.file bs) = .ok h)
    (hL : L < h.segsize) : readerOpenLim (some L) (.file bs) = .error (.sys 12 .mmap) := by
  rw [readerOpen_file] at hok
  rw [readerOpenLim_some_file]
  grind [ENOMEM]

/-- opening is total, and these are all its outcomes.  By construction the model has no further
    outcome (`readerOpen` is a total function into `Except ShmErr Header`); that the implementation
    has none either — no panic, no signal — is what the harness observes under `catch_unwind` on
    every generated file and path. -/
theorem open_total (st : FileState) :
    (∃ h, readerOpen st = .ok h) ∨ readerOpen st = .error .notInit ∨ readerOpen st = .error .malformed ∨
    (st = .missing ∧ readerOpen st = .error (.sys 2 .open_)) ∨
    (st = .directory ∧ readerOpen st = .error (.sys 21 .read)) := by
  cases st with
  | missing => exact Or.inr (Or.inr (Or.inr (Or.inl ⟨rfl, rfl⟩)))
  | directory => exact Or.inr (Or.inr (Or.inr (Or.inr ⟨rfl, rfl⟩)))
  | file bs =>
    rw [readerOpen_file]
    grind

/-- the model agrees with the documented outcome table `specOpen` -/
theorem open_spec (st : FileState) : Res.ofExcept (readerOpen st) = specOpen st := by
  cases st with
  | missing => rfl
  | directory => rfl
  | file bs =>
    rw [readerOpen_file]
    unfold specOpen validBytes magicOk HEADER_SIZE SEGMENT_SIZE Res.ofExcept
    grind

/-- the oracle holds of the model: all three ways of opening report the documented outcome, the two
    client libraries through their `From<ShmError>` conversions -/
theorem model_holds_open (st : FileState) :
    HoldsOpen st (some (Res.ofExcept (readerOpen st)))
      (some ((Res.ofExcept (readerOpen st)).map ShmErr.toClient))
      (some ((Res.ofExcept (readerOpen st)).map ShmErr.toClient)) = true := by
  unfold HoldsOpen
  rw [open_spec]
  simp

/-! ### repair: `ShmWriter::new`, the first `write`, a fresh reader -/

/-- a directory at the path: start-up is refused (`File::create` fails with EISDIR); this is the one
    kind of path the daemon does not repair -/
theorem start_directory (r : Record) (pad : Bytes) : startAndPublish .directory r pad = .error 21 := rfl

/-- what a fresh reader gets from a file that opens, is at least 72 bytes long, has an even
    generation and holds the encoding of `r` in its record area -/
theorem snapshot_of (bs : Bytes) (h : Header) (r : Record) (pad : Bytes) (hok : readerOpen (.file bs) = .ok h)
    (hlen : 72 ≤ bs.length) (heven : h.generation % 2 = 0)
    (hrec : slice bs HEADER_SIZE RECORD_SIZE = encodeRecordP r pad) (hr : r.inRange) :
    snapshotOfFile (.file bs) = .record r := by
  unfold snapshotOfFile
  rw [hok]
  simp only []
  rw [if_neg (by unfold SEGMENT_SIZE; omega), if_neg (by omega), hrec, decodeRecord_encodeRecordP r pad hr]

/-- what start-up maps opens after the first publication, with layout version 1 and an even non-zero
    generation, and a fresh reader reads the record back -/
theorem published (bs : Bytes) (r : Record) (pad : Bytes) (hb : Mappable bs) (hr : r.inRange) :
    (∃ h, readerOpen (.file (takeOver bs r pad)) = .ok h ∧ h.version = 1 ∧ h.generation ≠ 0 ∧ h.generation % 2 = 0) ∧
    snapshotOfFile (.file (takeOver bs r pad)) = .record r := by
  obtain ⟨hl, hm0, hm1, hs⟩ := hb
  have hlen := length_takeOver bs r pad
  have hW := parseHeader_takeOver bs r pad hl
  have hne := genFinish_ne_zero (genStart (parseHeader bs).generation)
  have heven := genFinish_even _ (genStart_odd (parseHeader bs).generation)
  -- as a variable: matching a field of the header against `genFinish ..` would unfold `genFinish` first
  generalize genFinish (genStart (parseHeader bs).generation) = g at hW hne heven
  have hok := (open_ok_iff (takeOver bs r pad) _).mpr ⟨by omega, hW.symm, hm0, hm1, Nat.one_ne_zero, hne, hs⟩
  exact ⟨⟨_, hok, rfl, hne, heven⟩,
    snapshot_of _ _ r pad hok (by omega) heven (slice_takeOver bs r pad hl).2.2.2 hr⟩

/-- **C16, repair clause.**  For every prior state of the path other than a directory, every
    in-range record and every content of the record's four padding bytes, daemon start-up followed
    by the first publication succeeds and leaves a file that
    * clients can open (layout version 1, even non-zero generation);
    * was re-created exactly when the prior state did not open, and is then precisely the documented
      72-byte image: header {magic, size 72, version 1, generation 2}, the record, the padding;
    * otherwise is the prior file taken over in place: same magic, same declared size, same length —
      except that a file that ended before byte 72 is now 72 bytes long (see `truncated_extended`);
    * and from which a fresh reader reads back exactly the record published. -/
theorem repair_roundtrip (st : FileState) (r : Record) (pad : Bytes) (hd : st ≠ .directory) (hr : r.inRange) :
    ∃ bs' rc, startAndPublish st r pad = .ok (.file bs', rc) ∧
      (∃ h, readerOpen (.file bs') = .ok h ∧ h.version = 1 ∧ h.generation ≠ 0 ∧ h.generation % 2 = 0) ∧
      (rc = true ↔ ∀ h, readerOpen st ≠ .ok h) ∧
      (rc = true → bs' = encodeSegmentP ⟨MAGIC0, MAGIC1, 72, 1, 2⟩ r pad ∧ bs'.length = 72) ∧
      (∀ bs h, st = .file bs → readerOpen st = .ok h →
          bs'.length = max bs.length 72 ∧ (parseHeader bs').segsize = h.segsize ∧
          (parseHeader bs').magic0 = MAGIC0 ∧ (parseHeader bs').magic1 = MAGIC1 ∧
          (parseHeader bs').generation = genFinish (genStart h.generation)) ∧
      snapshotOfFile (.file bs') = .record r := by
  obtain ⟨b, rc, hsp, hb, hcase⟩ := startAndPublish_spec st r pad hd
  obtain ⟨hfresh, hsnap⟩ := published b r pad hb hr
  rcases hcase with ⟨rfl, rfl, hok⟩ | ⟨rfl, rfl, hno⟩
  · -- a usable segment: taken over in place (grown to 72 bytes first if shorter)
    refine ⟨_, _, hsp, hfresh, ⟨(nomatch ·), fun x => absurd hok (x _)⟩, (nomatch ·), ?_, hsnap⟩
    intro bs h e1 e2
    cases e1
    cases hok.symm.trans e2
    rw [parseHeader_takeOver b r pad hb.1]
    exact ⟨length_takeOver b r pad, rfl, hb.2.1, hb.2.2.1, rfl⟩
  · -- anything else: wiped and re-created
    refine ⟨_, _, hsp, hfresh, ⟨fun _ => hno, fun _ => rfl⟩, fun _ => ⟨takeOver_wipeBytes r pad, ?_⟩,
      fun bs h _ e2 => absurd e2 (hno h), hsnap⟩
    rw [takeOver_wipeBytes]
    exact length_encodeSegmentP _ r pad

/-- a file whose header the readers accept but which ends before
    byte 72 (e.g. a 16-byte file declaring 72) is taken over, not re-created, and grown: after start-up
    and the first publication it is exactly 72 bytes long — its first twelve bytes (magic number,
    declared size) as they were, version 1, the generation advanced by one publication, the record with
    its padding; whatever it held from byte 16 on is overwritten by the record — and a fresh reader
    reads back exactly the record published -/
theorem truncated_extended (bs : Bytes) (h : Header) (r : Record) (pad : Bytes)
    (hok : readerOpen (.file bs) = .ok h) (hshort : bs.length < 72) (hr : r.inRange) :
    ∃ bs', startAndPublish (.file bs) r pad = .ok (.file bs', false) ∧ bs'.length = 72 ∧
      bs' = slice bs 0 12 ++ encU16 1 ++ encU16 (genFinish (genStart h.generation)) ++ encodeRecordP r pad ∧
      snapshotOfFile (.file bs') = .record r := by
  obtain ⟨hl, rfl, hm0, hm1, _, _, hs⟩ := (open_ok_iff bs h).mp hok
  refine ⟨_, startAndPublish_usable bs _ r pad hok, ?_, takeOver_short bs r pad hl (by omega),
    (published bs r pad ⟨hl, hm0, hm1, hs⟩ hr).2⟩
  rw [length_takeOver]
  omega

/-- the oracle holds of the model's own answer, for every prior state the repair clause speaks about
    (all but a directory) -/
theorem model_holds_seg (st : FileState) (r : Record) (pad : Bytes) (hr : r.inRange)
    (happ : segApplicable st = true) : HoldsSeg st r (modelSeg st r pad) = true := by
  obtain ⟨b, rc, hsp, hb, hcase⟩ := startAndPublish_spec st r pad (of_decide_eq_true happ)
  have hsnap := (published b r pad hb hr).2
  unfold modelSeg
  rw [hsp]
  simp only [HoldsSeg, encodeSegmentP, slice_takeOver_pad b r pad hb.1, encodeRecordP_padBytes, hsnap, length_takeOver,
    SEGMENT_SIZE]
  rcases hcase with ⟨rfl, rfl, hok⟩ | ⟨rfl, rfl, hno⟩
  · have hv : specValid (.file b) = true := by unfold specValid; rw [← open_spec, hok]; rfl
    simp only [hv, parseHeader_takeOver b r pad hb.1, priorLen, priorSegsize,
      decide_true, Bool.true_and, Bool.not_true, Bool.false_eq_true, if_false, and_self]
    cases htr : truncatedValid (.file b) with
    | false => rfl
    | true =>
      have hshort : b.length < 72 := by
        simp only [truncatedValid, Bool.and_eq_true] at htr
        exact of_decide_eq_true htr.2
      simpa [priorHead, priorGeneration] using takeOver_short b r pad hb.1 (by omega)
  · have hv : specValid st = false := by
      unfold specValid
      rw [← open_spec]
      cases hro : readerOpen st with
      | ok h => exact absurd hro (hno h)
      | error e => rfl
    have hlen : wipeBytes.length = 72 := by decide
    simpa [hv, hlen, encodeSegmentP, SEGMENT_SIZE] using takeOver_wipeBytes r pad

/-! ### non-vacuity -/

/-- a published segment opens -/
example : (readerOpen (.file (encodeSegment ⟨MAGIC0, MAGIC1, 72, 1, 2⟩ Record.empty))).toOption
    = some ⟨MAGIC0, MAGIC1, 72, 1, 2⟩ := by decide
/-- empty file, bad magic (the bytes docs/PROTOCOL.md prints), version 0, generation 0, small size -/
example : Res.ofExcept (readerOpen (.file [])) = .err .notInit := by decide
example : Res.ofExcept (readerOpen (.file ([0x41, 0x4D, 0x5A, 0x4E, 0x43, 0x42, 0x02, 0x00] ++
    (encodeSegment ⟨0, 0, 72, 1, 2⟩ Record.empty).drop 8))) = .err .notInit := by decide
example : Res.ofExcept (readerOpen (.file (encodeSegment ⟨MAGIC0, MAGIC1, 15, 0, 2⟩ Record.empty))) = .err .notInit := by decide
example : Res.ofExcept (readerOpen (.file (encodeSegment ⟨MAGIC0, MAGIC1, 15, 1, 0⟩ Record.empty))) = .err .notInit := by decide
example : Res.ofExcept (readerOpen (.file (encodeSegment ⟨MAGIC0, MAGIC1, 71, 1, 2⟩ Record.empty))) = .err .malformed := by decide
example : Res.ofExcept (readerOpen (.file (encodeSegment ⟨MAGIC0, MAGIC1, 15, 1, 2⟩ Record.empty))) = .err .malformed := by decide
/-- a bare header declaring 72 bytes opens: only the declared size is checked -/
example : (readerOpen (.file (encodeHeader ⟨MAGIC0, MAGIC1, 72, 1, 2⟩))).isOk = true := by decide
/-- …and is the truncated-valid case, which the repair clause covers like every other file -/
example : truncatedValid (.file (encodeHeader ⟨MAGIC0, MAGIC1, 72, 1, 2⟩)) = true ∧
    segApplicable (.file (encodeHeader ⟨MAGIC0, MAGIC1, 72, 1, 2⟩)) = true := by decide
example : segApplicable .missing = true ∧ segApplicable (.file []) = true ∧ segApplicable .directory = false := by decide
/-- repair of an empty file, concretely -/
example : (startAndPublish (.file []) ⟨⟨1, 2⟩, ⟨3, 4⟩, -5, 6, 7, .freeRunning⟩ [0xc7, 0x55, 0, 0]).toOption =
    some (.file [0x4E, 0x5A, 0x4D, 0x41, 0x00, 0x02, 0x42, 0x43, 72, 0, 0, 0, 1, 0, 2, 0,
                1, 0, 0, 0, 0, 0, 0, 0, 2, 0, 0, 0, 0, 0, 0, 0, 3, 0, 0, 0, 0, 0, 0, 0, 4, 0, 0, 0, 0, 0, 0, 0,
                251, 255, 255, 255, 255, 255, 255, 255, 6, 0, 0, 0, 7, 0, 0, 0, 2, 0, 0, 0, 0xc7, 0x55, 0, 0], true) := by
  decide +kernel

/-- a 16-byte usable file (header only: declared size 72, version 1, generation 10) is grown to 72
    bytes, not re-created: magic and declared size kept, version 1, generation 12, the record -/
example : (startAndPublish (.file [0x4E, 0x5A, 0x4D, 0x41, 0x00, 0x02, 0x42, 0x43, 0x48, 0, 0, 0, 1, 0, 0x0a, 0])
      ⟨⟨1, 2⟩, ⟨3, 4⟩, 5, 6, 7, .synchronized⟩ [0, 0, 0, 0]).toOption =
    some (.file [0x4E, 0x5A, 0x4D, 0x41, 0x00, 0x02, 0x42, 0x43, 72, 0, 0, 0, 1, 0, 0x0c, 0,
                1, 0, 0, 0, 0, 0, 0, 0, 2, 0, 0, 0, 0, 0, 0, 0, 3, 0, 0, 0, 0, 0, 0, 0, 4, 0, 0, 0, 0, 0, 0, 0,
                5, 0, 0, 0, 0, 0, 0, 0, 6, 0, 0, 0, 7, 0, 0, 0, 1, 0, 0, 0, 0, 0, 0, 0], false) := by
  decide +kernel
/-- …the result is 72 bytes long, a fresh reader reads back the record, and the oracle accepts the
    model's answer (and rejects the 16-byte file left as it was, `short`) -/
example : modelSeg (.file [0x4E, 0x5A, 0x4D, 0x41, 0x00, 0x02, 0x42, 0x43, 0x48, 0, 0, 0, 1, 0, 0x0a, 0])
      ⟨⟨1, 2⟩, ⟨3, 4⟩, 5, 6, 7, .synchronized⟩ [0, 0, 0, 0] =
    .done false true (encodeSegment ⟨MAGIC0, MAGIC1, 72, 1, 12⟩ ⟨⟨1, 2⟩, ⟨3, 4⟩, 5, 6, 7, .synchronized⟩)
      (.record ⟨⟨1, 2⟩, ⟨3, 4⟩, 5, 6, 7, .synchronized⟩) := by decide +kernel
example : (encodeSegment ⟨MAGIC0, MAGIC1, 72, 1, 12⟩ ⟨⟨1, 2⟩, ⟨3, 4⟩, 5, 6, 7, .synchronized⟩).length = 72 := by decide
example : HoldsSeg (.file [0x4E, 0x5A, 0x4D, 0x41, 0x00, 0x02, 0x42, 0x43, 0x48, 0, 0, 0, 1, 0, 0x0a, 0])
      ⟨⟨1, 2⟩, ⟨3, 4⟩, 5, 6, 7, .synchronized⟩
      (.done false true (encodeSegment ⟨MAGIC0, MAGIC1, 72, 1, 12⟩ ⟨⟨1, 2⟩, ⟨3, 4⟩, 5, 6, 7, .synchronized⟩)
        (.record ⟨⟨1, 2⟩, ⟨3, 4⟩, 5, 6, 7, .synchronized⟩)) = true := by decide +kernel
example : HoldsSeg (.file [0x4E, 0x5A, 0x4D, 0x41, 0x00, 0x02, 0x42, 0x43, 0x48, 0, 0, 0, 1, 0, 0x0a, 0])
      ⟨⟨1, 2⟩, ⟨3, 4⟩, 5, 6, 7, .synchronized⟩
      (.done false true [0x4E, 0x5A, 0x4D, 0x41, 0x00, 0x02, 0x42, 0x43, 0x48, 0, 0, 0, 1, 0, 0x0c, 0] .short) = false := by
  decide +kernel

end ClockBound.C16

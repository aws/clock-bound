/-
  Translation tie, group `Errors`: the two client libraries — clock-bound-client/src/lib.rs (Rust) and
  clock-bound-ffi/src/lib.rs (the C API) — error conversions, `now`, `open`, `close`.  (C14, C16, C17)

  Every statement is about the AST the translator regenerated from the working tree, run by the interpreter
  (`Rs/Interp.lean`) in the context `ctxE inp` (`Proofs/RsErrors.lean`):
  * all generated tables (`Code.structs`, `Code.enums`, `Code.enumDiscr`, constants);
  * the function table restricted to the functions translated from the two client files (`clientFns`:
    whatever functions these files contain — a helper function added there is found, nothing is named);
  * the dictionary `DictErrors.ext` (`Rs/DictErrors.lean`, trusted): the calls INTO clock-bound-shm
    (`ShmReader::new`, `ShmReader::snapshot`, `ClockErrorBound::now`) are the environment — each consumes ONE
    input (the `Result` it returns) and logs ONE event (callee, argument, result); raw pointers, `Box`,
    `CStr`/`CString`, `Errno` are objects of the dictionary;
  * the input stream `inp`: universally quantified; the hypotheses `inp k = <embedding of a model value>` say
    that the k-th call into clock-bound-shm returned a well-typed value of its return type, nothing else.

  Model side: `Model/ErrorsProg.lean` (`ShmErrorV.toClient`, `clientNow`, `clientOpen`), which
  `Properties/ErrorsProg.lean` proves to be `ShmErr.toClient` of `Model/Header.lean` on every value of `ShmErr`
  (`toClient_full`), with `ErrKind.code` the numbering of the kinds.

  `x.into()` and `Default::default()` are resolved by Rust's type checker from the type of their destination.  Where
  the destination is a field of a struct of the generated tables (`ctx.err = e.into()`, `clock_status: status.into()`,
  `err: Default::default()`) the interpreter resolves them the same way, from the declared field type (core rule
  `typedInit`), so the `From` / `Default` impl of the source is what runs.  The one place without such a type is
  `err.write(e.into())` in `clockbound_open` (a raw out-pointer): there the dictionary keeps `intoValue e`;
  `into_destinations` checks the declared pointee type and `ffi_from_eq_all` says what the conversion computes.
-/
import ClockBound.Proofs.RsErrorsFrom
import ClockBound.Proofs.RsErrorsNow
import ClockBound.Proofs.RsErrorsOpen
import ClockBound.Properties.ErrorsProg
import ClockBound.Properties.CodeTieErrorsTables
namespace ClockBound.CodeTieErrors
open ClockBound ClockBound.Rs ClockBound.Generated ClockBound.Rs.DictErrors ClockBound.Rs.EmbedErrors
open ClockBound.Rs.ErrorsProof

open scoped ClockBound.Rs.CallByValue

/-! ## 1. error conversions -/

/-- `impl From<ShmError> for ClockBoundError` (Rust client) on EVERY `ShmError` value — any errno, any
    origin string, all four variants — is `ShmErrorV.toClient`: kind, errno (0 unless a system call failed),
    detail (the origin text; the empty string otherwise).  Nothing is logged, no input is consumed. -/
theorem client_from_eq_all (inp : Nat → Value) (e : ShmErrorV) :
    run (ctxE inp) "From<ShmError> for ClockBoundError::from" .unit [shmErrorValue e]
    = .ok (clientErrValue e.toClient) .unit [] :=
  run_of_call (by simp only [rs_eval, rs_base, rs_code]) (client_from_decl 140 inp e _)

/-- in terms of `Model/Header.lean`: on every error of `ShmErr`, the result is `ShmErr.toClient` -/
theorem client_from_eq (inp : Nat → Value) (e : ShmErr) :
    run (ctxE inp) "From<ShmError> for ClockBoundError::from" .unit [shmErrorValue e.full]
    = .ok (clientErrValue e.toClient.full) .unit [] := by
  rw [← ErrorsProg.toClient_full]; exact client_from_eq_all inp e.full

/-- `impl From<ShmError> for clockbound_err` (C API): the same function `toClient`; the kind is the variant
    of `clockbound_err_kind`, `errno` an `i32`, `detail` the pointer to the origin string or NULL -/
theorem ffi_from_eq_all (inp : Nat → Value) (e : ShmErrorV) :
    run (ctxE inp) "From<ShmError> for clockbound_err::from" .unit [shmErrorValue e]
    = .ok (ffiErrValue e.toClient) .unit [] :=
  run_of_call (by simp only [rs_eval, rs_base, rs_code]) (ffi_from_decl 140 inp e _)

theorem ffi_from_eq (inp : Nat → Value) (e : ShmErr) :
    run (ctxE inp) "From<ShmError> for clockbound_err::from" .unit [shmErrorValue e.full]
    = .ok (ffiErrValue e.toClient.full) .unit [] := by
  rw [← ErrorsProg.toClient_full]; exact ffi_from_eq_all inp e.full

/-- `impl From<ClockStatus> for clockbound_clock_status`: the variant of the same name, whose discriminant
    is `Status.code` -/
theorem ffi_status_from_eq (inp : Nat → Value) (s : Status) :
    run (ctxE inp) "From<ClockStatus> for clockbound_clock_status::from" .unit [statusValue s]
    = .ok (ffiStatusValue s) .unit [] :=
  run_of_call (by simp only [rs_eval, rs_base, rs_code]) (ffi_status_from_decl 140 inp s _)
-- (`ffi_status_table`, `ffi_kind_table`, `ffi_kind_code`, `client_kind_table`, `shm_error_table`,
--  `into_destinations`: in `Properties/CodeTieErrorsTables.lean`, same namespace)

/-- `impl Default for clockbound_err`: kind NONE, errno 0, detail NULL -/
theorem ffi_default_eq (inp : Nat → Value) :
    run (ctxE inp) "Default for clockbound_err::default" .unit []
    = .ok (ffiErrValue ⟨.none, 0, none⟩) .unit [] :=
  run_of_call (by simp only [rs_eval, rs_base, rs_code]) (ffi_default_decl 140 inp _)

/-! ## 2. `now()`: the C client and the Rust client are the same function of what clock-bound-shm returns -/

/-- `ClockBoundClient::now`: for ALL results `snap` of `reader.snapshot()` and `bound` of `snapshot.now()`
    (second input; read only if there is a snapshot): the result is `clientNow snap bound` — the first error,
    converted by `toClient`, else the interval with the timestamps as `TimeSpec` and the status unchanged —,
    the calls made are `nowCalls` (snapshot, then now on the record it returned), the client is unchanged. -/
theorem rust_now_eq (inp : Nat → Value) (h : Value) (snap : Except ShmErrorV Record) (bound : Except ShmErrorV Bound)
    (h0 : inp 0 = snapResValue snap) (h1 : inp 1 = boundResValue bound) :
    run (ctxE inp) "ClockBoundClient::now" (clientValue h) []
    = rustNowOutcome h (nowCalls h snap bound) (clientNow snap bound) :=
  rust_now inp h snap bound h0 fun _ _ => h1

/-- `clockbound_now(ctx, output)` on a valid context (whatever its `err` field holds) and a valid output
    pointer: the SAME calls `nowCalls` and the SAME model value `clientNow snap bound`: on success one write of
    `{earliest, latest, clockbound_clock_status::from(status)}` through `output` and NULL is returned; on the first
    error `e`, `ctx.err = clockbound_err::from(e)` and `&ctx.err` — the converted error `toClient e` — is returned. -/
theorem ffi_now_eq (inp : Nat → Value) (h err : Value) (snap : Except ShmErrorV Record) (bound : Except ShmErrorV Bound)
    (h0 : inp 0 = snapResValue snap) (h1 : inp 1 = boundResValue bound) :
    run (ctxE inp) "ffi_lib::clockbound_now" .unit [heapPtr (ctxValue err h), outPtr "output"]
    = ffiNowOutcome (nowCalls h snap bound) (clientNow snap bound) :=
  ffi_now inp h err snap bound h0 fun _ _ => h1

/-- the two clients, side by side: same calls into clock-bound-shm, and outcomes that are the two
    embeddings of ONE model value, `clientNow snap bound` -/
theorem now_agree (inp : Nat → Value) (h err : Value) (snap : Except ShmErrorV Record) (bound : Except ShmErrorV Bound)
    (h0 : inp 0 = snapResValue snap) (h1 : inp 1 = boundResValue bound) :
    ∃ calls, calls = nowCalls h snap bound ∧
      run (ctxE inp) "ClockBoundClient::now" (clientValue h) [] = rustNowOutcome h calls (clientNow snap bound) ∧
      run (ctxE inp) "ffi_lib::clockbound_now" .unit [heapPtr (ctxValue err h), outPtr "output"]
        = ffiNowOutcome calls (clientNow snap bound) :=
  ⟨_, rfl, rust_now_eq inp h snap bound h0 h1, ffi_now_eq inp h err snap bound h0 h1⟩

/-- a NULL context is dereferenced (`&mut *ctx`): no defined behaviour, the interpreter has no rule -/
theorem ffi_now_null_stuck (inp : Nat → Value) :
    (run (ctxE inp) "ffi_lib::clockbound_now" .unit [nullPtr, outPtr "output"]).isStuck = true := by
  simp -implicitDefEqProofs only [rs_eval, rs_base, rs_code, Outcome.isStuck]

/-! ## 3. `open()` / `close()` -/

/-- `ClockBoundClient::new_with_path(path)` for a path without NUL character: exactly one call
    `ShmReader::new` on the path as a C string; `clientOpen`: the client holding the reader, or the error
    converted by `toClient` -/
theorem rust_open_eq (inp : Nat → Value) (path : String) (res : Except ShmErrorV Value)
    (hs : path.contains (Char.ofNat 0) = false) (h0 : inp 0 = openResValue res) :
    run (ctxE inp) "ClockBoundClient::new_with_path" .unit [.str path] = rustOpenOutcome path res :=
  run_of_call (by simp only [rs_eval, rs_base, rs_code]) (rust_open_decl 100 inp path res hs h0)

/-- a path with a NUL character: `CString::new(..).expect(..)` panics, before anything is opened -/
theorem rust_open_nul_panics (inp : Nat → Value) (path : String) (hs : path.contains (Char.ofNat 0) = true) :
    run (ctxE inp) "ClockBoundClient::new_with_path" .unit [.str path] = .panic := by
  simp -implicitDefEqProofs only [rs_eval, rs_base, rs_code, hs]

/-- `ClockBoundClient::new()` is `new_with_path` on the constant `CLOCKBOUND_SHM_DEFAULT_PATH` -/
theorem rust_new_eq (inp : Nat → Value) (res : Except ShmErrorV Value) (h0 : inp 0 = openResValue res) :
    run (ctxE inp) "ClockBoundClient::new" .unit [] = rustOpenOutcome defaultPath res := by
  have hopen := fun n => rust_open_decl n inp defaultPath res (by simp [defaultPath]) h0
  simp only [defaultPath] at hopen
  simp -implicitDefEqProofs only [↓ hopen, rs_eval, rs_base, rs_code, defaultPath]

example : defaultPath = "/var/run/clockbound/shm" ∧ defaultPath.contains (Char.ofNat 0) = false := by
  refine ⟨rfl, ?_⟩; simp [defaultPath]

/-- `clockbound_open(shm_path, err)` for a valid `shm_path` (any bytes `path`) and `err` NULL or valid: the
    SAME single call `ShmReader::new`; on success a new context `{ err: Default::default(), reader }` on the
    heap; on an error NULL, the error written through `err` as `e.into()` iff `err` is not NULL -/
theorem ffi_open_eq (inp : Nat → Value) (path : Value) (errNull : Bool) (res : Except ShmErrorV Value)
    (h0 : inp 0 = openResValue res) :
    run (ctxE inp) "ffi_lib::clockbound_open" .unit [cptr path, errArg errNull] = ffiOpenOutcome path errNull res := by
  cases res with
  | error e =>
    obtain ⟨p, args, hv, hm⟩ := shmErrorValue_into e
    cases errNull <;> simp -implicitDefEqProofs only [↓ hm, rs_eval, rs_base, rs_code, h0, hv]
  | ok h => rw [ffi_open_ok inp path errNull (readerValue h) h0, h0]; rfl

/-- both `open`s are `ShmReader::new` + `clientOpen` (for a text path, as the Rust client takes) -/
theorem open_agree (inp : Nat → Value) (path : String) (res : Except ShmErrorV Value)
    (hs : path.contains (Char.ofNat 0) = false) (h0 : inp 0 = openResValue res) :
    run (ctxE inp) "ClockBoundClient::new_with_path" .unit [.str path] = rustOpenOutcome path res ∧
    run (ctxE inp) "ffi_lib::clockbound_open" .unit [cptr (.str path), errArg false]
      = ffiOpenOutcome (.str path) false res :=
  ⟨rust_open_eq inp path res hs h0, ffi_open_eq inp (.str path) false res h0⟩

/-- a NULL `shm_path` is handed to `CStr::from_ptr`: no defined behaviour, no rule -/
theorem ffi_open_null_path_stuck (inp : Nat → Value) (errNull : Bool) :
    (run (ctxE inp) "ffi_lib::clockbound_open" .unit [nullPtr, errArg errNull]).isStuck = true := by
  simp -implicitDefEqProofs only [rs_eval, rs_base, rs_code, Outcome.isStuck]

/-- `clockbound_close(ctx)` on a valid context: exactly one event — the context (with its `ShmReader`) is
    dropped — and NULL is returned; no input is consumed -/
theorem ffi_close_eq (inp : Nat → Value) (c : Value) :
    run (ctxE inp) "ffi_lib::clockbound_close" .unit [heapPtr c] = .ok nullPtr .unit [evDrop c] := by
  simp -implicitDefEqProofs only [rs_eval, rs_base, rs_code]

/-- closing a NULL context (`Box::from_raw(NULL)`): no defined behaviour, no rule -/
theorem ffi_close_null_stuck (inp : Nat → Value) :
    (run (ctxE inp) "ffi_lib::clockbound_close" .unit [nullPtr]).isStuck = true := by
  simp -implicitDefEqProofs only [rs_eval, rs_base, rs_code, Outcome.isStuck]

/-! ## non-vacuity -/

/-- the value ranges the Rust types force: the errno is an `i32` (decidable; the theorems above do not need
    it: the conversions only move the errno) -/
def inRange (e : ShmErrorV) : Prop := e.inRange
instance : Decidable (inRange e) := by unfold inRange; infer_instance
example : inRange (.sys 2 "open") ∧ inRange .causality ∧ ¬ inRange (.sys 2147483648 "mmap SHM segment") := by decide

/-- the restricted function table is not empty: it has the functions the theorems are about -/
example : (clientFns.map (·.1)).contains "ffi_lib::clockbound_now" = true ∧
    (clientFns.map (·.1)).contains "ClockBoundClient::now" = true ∧
    (clientFns.map (·.1)).contains "ShmReader::snapshot" = false := by
  simp [clientFns_eq, clientFnsNF]

/-- hypotheses are satisfiable and the outcomes are what one expects, on an instance: ENOENT on open -/
example : (ShmErrorV.sys 2 "open").toClient = ⟨.syscall, 2, some "open"⟩ ∧
    ffiErrValue (ShmErrorV.sys 2 "open").toClient =
      .struct "clockbound_err" [("detail", cptr (.str "open")), ("errno", .int .i32 2),
        ("kind", .enumv "clockbound_err_kind::CLOCKBOUND_ERR_SYSCALL" [])] := by
  constructor <;> rfl

/-- an input stream satisfying the hypotheses of `rust_now_eq` / `ffi_now_eq` exists for every pair of results -/
example (snap : Except ShmErrorV Record) (bound : Except ShmErrorV Bound) :
    ∃ inp : Nat → Value, inp 0 = snapResValue snap ∧ inp 1 = boundResValue bound :=
  ⟨fun k => if k = 0 then snapResValue snap else boundResValue bound, rfl, rfl⟩

/-- without the dictionary the C API is stuck at its first pointer operation: the rules are what gives the
    raw-pointer plumbing a meaning -/
example : (run ({ ctxE (fun _ => .unit) with ext := Ext.none }) "ffi_lib::clockbound_close" .unit
    [heapPtr .unit]).isStuck = true := by
  simp -implicitDefEqProofs only [rs_eval, rs_base, rs_code, Outcome.isStuck, ctxE]

end ClockBound.CodeTieErrors

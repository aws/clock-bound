/-
  Translation tie, group `Threads` (C15), part 2: the two worker threads, from their entry functions
  (`chrony_poller::run`, `shm_writer::run`) to the point where their `Context` is dropped, as reactive programs
  (same set-up as `Properties/CodeTieThreads.lean`: dictionary `Rs/DictThreads.lean`, input stream, event log;
  descriptions of what a thread observes: `Rs/EmbedWorkers.lean`).

  Poller — `poller_exit_eq` (`chrony_poller::run`) and `poller_loop_eq` (`run_clock_error_bound_poller`, for every
  `impl ChronyOperations` value and sleep duration): for every number `k` and sequence of trips through the loop
  whose mailbox check returns anything but `Ok(ThreadAbort)` — a time-out, a disconnected mailbox, any other message
  — the loop goes round; each trip reads the clock, and unless that failed asks chrony (and `is_within_grace_period`
  when there is no reply), sends ONE message to the ShmWriter channel and checks the mailbox.  It ends in exactly two
  ways: `Ok(ThreadAbort)` at the mailbox check ⇒ the function RETURNS `()` (log: all operations, in order); the send
  to the ShmWriter fails ⇒ it PANICS, without looking at the mailbox again.  The message built is whatever
  `Poll.msg` says (an opaque payload for this group; its selection logic is group `Poller`'s), under `Poll.phcMiss`:
  a reply never carries the configured PHC's reference id (otherwise the PHC file is read — group `Poller`).
  Context: `pollerCtx` = the regenerated tables minus the two methods of `impl ChronyOperations for
  ClockErrorBoundPoller` (operations of the environment here; they are group `Poller`'s: `CodeTiePoller`).
  Model: `ThreadsProg.pollerProg` / `PollerEnd.kind` (`poller_iter_abs`, `poller_end_kind`; the program runs
  `stepPoller` from `start` to `exiting kind`: `ThreadsProgProps.poller_prog_pcs`, `pollerDo_next`).

  Writer — in the context `writerCtx` (the regenerated tables minus `ShmWriter::new` and the two
  `ShmUpdater::process_*` methods, which are operations of the environment there: they are tied by `CodeTieUpdater`
  resp. belong to group `Shm`): `writer_exit_eq` (`shm_writer::run`), `writer_open_failed_eq`, `writer_loop_eq`
  (`process_messages` for EVERY updater state).  `ShmWriter::new` fails ⇒ the thread panics before it ever looks at
  its mailbox; otherwise every received message is handled (`ClockErrorBoundData` ⇒ `process_clock_update(payload)`,
  the four data-less ones ⇒ `process_missing_clock_update(grace)`, a notice or a receive error ⇒ nothing) and the
  loop goes on, until `Ok(ThreadAbort)` ⇒ the function RETURNS with nothing else done (no further write), or a
  handler panics ⇒ it panics.  Model: `ThreadsProg.writerProg` / `WriterEnd.kind`.
-/
import ClockBound.Proofs.RsThreadsPoller
import ClockBound.Proofs.RsThreadsWriter
import ClockBound.Properties.ThreadsProg
namespace ClockBound.CodeTieThreads
open ClockBound ClockBound.Rs ClockBound.Generated ClockBound.Rs.DictThreads ClockBound.Rs.EmbedThreads
open ClockBound.Rs.EmbedWorkers ClockBound.Threads ClockBound.Rs.ThreadsProof

section
open scoped ClockBound.Rs.CallByValue

theorem poller_exit_eq (ks : List Thread) (phc : Option (Nat × Value)) (k F : Nat) (it : Nat → PIter)
    (hcont : ∀ i, i < k → (it i).wait.continues = true) (hmiss : ∀ i, i < k → (it i).poll.phcMiss phc)
    (e : PEnd) (hmissE : e.poll.phcMiss phc) (hsend : ∀ p, e = .sendFailed p → p.sends = true)
    (nowNs : Int) (inp : Nat → Value) (i0 i1 : Value)
    (hin : inputsAt inp 0 (pollerStartInputs i0 i1 ++ loopInputs k it e)) :
    runFuel (F + k + 200) (pollerCtx nowNs inp) "chrony_poller::run" .unit
      [contextValue .poller ks, phcValue phc]
    = pollerOutcome e (pollerStartEvents i0 i1 ++ loopEvents 1000000000 k it e) := by
  obtain ⟨hs, hl⟩ := (inputsAt_append ..).1 hin
  have h0 : inp 0 = .ext "Instant" [i0] := hs.1
  have h1 : inp 1 = .enumv "Some" [.ext "Instant" [i1]] := hs.2.1
  -- start-up (`ClockErrorBoundPoller::default()`: the monotonic clock minus the grace period; the 1 s sleep), then the
  -- loop function
  simp -implicitDefEqProofs only [rs_eval, rs_base, rs_code, ascribe_contextValue, h0, h1, ↓pollerLoopCall_wrap]
  rw [pollerLoopCall, poller_loop_tie ks _ phc 1000000000 k it hcont hmiss e hmissE hsend nowNs inp _ _ 2 hl _ (by omega)]
  cases e <;> simp only [rs_eval, rs_base, rs_code, pollerOutcome, pollerStartEvents]

theorem poller_loop_eq (ks : List Thread) (fs : List (String × Value)) (phc : Option (Nat × Value)) (d : Int)
    (k F : Nat) (it : Nat → PIter) (hcont : ∀ i, i < k → (it i).wait.continues = true)
    (hmiss : ∀ i, i < k → (it i).poll.phcMiss phc) (e : PEnd) (hmissE : e.poll.phcMiss phc)
    (hsend : ∀ p, e = .sendFailed p → p.sends = true) (nowNs : Int) (inp : Nat → Value)
    (hin : inputsAt inp 0 (loopInputs k it e)) :
    runFuel (F + k + 100) (pollerCtx nowNs inp)
      "chrony_poller::run_clock_error_bound_poller" .unit
      [contextValue .poller ks, .struct "ClockErrorBoundPoller" fs, phcValue phc, .duration d]
    = pollerOutcome e (loopEvents d k it e) := by
  simp -implicitDefEqProofs only [rs_eval, rs_base, rs_code, ↓pollerLoopCall_wrap]
  rw [pollerLoopCall, poller_loop_tie ks fs phc d k it hcont hmiss e hmissE hsend nowNs inp _ _ 0 hin _ (by omega)]
  cases e <;> simp only [rs_eval, rs_base, rs_code, pollerOutcome]

theorem writer_exit_eq (ks : List Thread) (drift : Nat) (k F : Nat) (ws : Nat → WStep)
    (hdone : ∀ i, i < k → (ws i).done = true) (hwf : ∀ i, i < k → (ws i).wellFormed = true)
    (e : WEnd) (he : ∀ s, e = .handlerPanic s → s.done = false) (nowNs : Int) (inp : Nat → Value)
    (hin : inputsAt inp 0 (.enumv "Ok" [.writer] :: wloopInputs k ws e)) :
    runFuel (F + k + 200) (writerCtx nowNs inp) "shm_writer::run" .unit [contextValue .writer ks, .int .u32 drift]
    = writerOutcome e (evOp "ShmWriter::new" [shmPathValue] (.enumv "Ok" [.writer]) :: wloopEvents k ws) := by
  have h0 : inp 0 = .enumv "Ok" [.writer] := hin.1
  have hl : inputsAt inp 1 (wloopInputs k ws e) := hin.2
  have hloop := fun env log N hN =>
    writer_loop_tie ks (Updater.new drift) k ws hdone hwf e he nowNs inp env log 1 hl N hN
  simp only [updaterValue, Updater.new, ctimespecValue, Int.ofNat_zero] at hloop
  -- `ShmWriter::new` (abstract), `ShmUpdater::new` (the regenerated code), then the loop function
  simp -implicitDefEqProofs only [rs_eval, rs_base, rs_code, ascribe_contextValue', h0, ↓wloopCall_wrap]
  rw [wloopCall, hloop _ _ _ (by omega)]
  cases e <;> simp only [rs_eval, rs_base, rs_code, writerOutcome, shmPathValue]

theorem writer_open_failed_eq (ks : List Thread) (drift : Nat) (F : Nat) (err : Value) (nowNs : Int)
    (inp : Nat → Value) (h0 : inp 0 = .enumv "Err" [err]) :
    runFuel (F + 200) (writerCtx nowNs inp) "shm_writer::run" .unit [contextValue .writer ks, .int .u32 drift]
    = .panic := by
  simp -implicitDefEqProofs only [rs_eval, rs_base, rs_code, ascribe_contextValue', h0]

theorem writer_loop_eq (ks : List Thread) (u : Updater) (k F : Nat) (ws : Nat → WStep)
    (hdone : ∀ i, i < k → (ws i).done = true) (hwf : ∀ i, i < k → (ws i).wellFormed = true)
    (e : WEnd) (he : ∀ s, e = .handlerPanic s → s.done = false) (nowNs : Int) (inp : Nat → Value)
    (hin : inputsAt inp 0 (wloopInputs k ws e)) :
    runFuel (F + k + 100) (writerCtx nowNs inp) "shm_writer::process_messages" .unit
      [contextValue .writer ks, updaterValue u]
    = writerOutcome e (wloopEvents k ws) := by
  simp -implicitDefEqProofs only [rs_eval, rs_base, rs_code, ↓wloopCall_wrap]
  rw [wloopCall, writer_loop_tie ks u k ws hdone hwf e he nowNs inp _ _ 0 hin _ (by omega)]
  cases e <;> simp only [rs_eval, rs_base, rs_code, writerOutcome]

end

/-! ### reading as the model's programs -/

/-- a trip that lets the loop go on is a `PollerIter` whose mailbox check is not Abort -/
theorem poller_iter_abs (it : PIter) (m : ThreadsProg.PollerIter) (hc : it.wait.continues = true)
    (h : it.abs = some m) : m.clockOk = it.poll.clockOk ∧ m.wait ≠ some .abort := by
  obtain ⟨poll, wait⟩ := it
  obtain ⟨w, hw, rfl⟩ := Option.map_eq_some_iff.mp h
  refine ⟨rfl, ?_⟩
  rintro rfl
  rcases wait with (_ | _ | ⟨_ | _ | _⟩ | ⟨_ | _ | _⟩ | _) | _ | _ <;>
    simp_all [RecvT.abs, RMsg.abs, RecvT.continues, RMsg.isAbort]

/-- the function returns iff the model thread ends by `terminate`, panics iff by `panic` -/
theorem poller_end_kind (e : PEnd) (log : List Value) :
    (pollerOutcome e log = .panic ↔ e.abs.kind = .panic) ∧
    (pollerOutcome e log = .ok .unit .unit log ↔ e.abs.kind = .terminate) := by
  cases e <;> simp [pollerOutcome, PEnd.abs, ThreadsProg.PollerEnd.kind]

/-- a handled message is a model message other than Abort -/
theorem writer_step_abs (s : WStep) (m : Threads.Msg) (hw : s.wellFormed = true) (h : s.abs = some m) :
    m ≠ .abort := by
  rintro rfl
  rcases s with _ | _ | (_ | _ | ⟨_ | _ | _⟩ | ⟨_ | _ | _⟩ | _) | _ <;>
    simp_all [WStep.abs, WStep.wellFormed, RMsg.abs, RMsg.isNotice]

/-! ### non-vacuity -/

/-- a concrete poller run: one trip (no reply from chrony, within grace; time-out at the mailbox), then a reply
    whose send fails: the hypotheses of `poller_exit_eq` are satisfiable, and it panics -/
def demoPollerInputs : List Value :=
  pollerStartInputs .unit .unit ++ (PIter.mk (.noReply ⟨0, 0⟩ true) .timeout).inputs ++
    (PEnd.sendFailed (.noReply ⟨0, 0⟩ false)).inputs

example : runFuel 201 (pollerCtx 0 (fun i => demoPollerInputs.getD i .unit)) "chrony_poller::run"
      .unit [contextValue .poller [.main, .poller, .writer], phcValue none] = .panic := by
  refine poller_exit_eq [.main, .poller, .writer] none 1 0 (fun _ => ⟨.noReply ⟨0, 0⟩ true, .timeout⟩)
    (fun _ _ => rfl) (fun _ _ => trivial) (.sendFailed (.noReply ⟨0, 0⟩ false)) trivial ?_ 0 _ .unit .unit ?_
  · intro p hp
    cases hp
    rfl
  · simp [inputsAt, demoPollerInputs, pollerStartInputs, loopInputs, PIter.inputs, PEnd.inputs, Poll.inputs,
      RecvT.value, List.range_succ]

example : ThreadsProg.pollerNexts .start (ThreadsProg.pollerProg [⟨true, none⟩] (PEnd.sendFailed (.noReply ⟨0, 0⟩ false)).abs)
    = some (.exiting .panic) := by decide

example : ThreadsProg.writerNexts .start (ThreadsProg.writerProg [.data] .abort) = some (.exiting .terminate) := by
  decide

end ClockBound.CodeTieThreads

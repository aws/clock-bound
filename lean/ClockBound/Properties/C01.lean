/-
  C01 — True time lies inside every trusted interval (end-to-end containment).
-/
import ClockBound.Model.World
import ClockBound.Proofs.World
import ClockBound.Properties.C09
namespace ClockBound.C01
open ClockBound

/-- Provenance (uses C07–C09): every record ever published with a status other than Unknown —
    whatever the history of reports, outages and restarts — carries the bound and as-of of one poll
    whose report was classified synchronised. -/
theorem provenance (w : World) (evs : List WEvent) (r : Record)
    (hr : r ∈ (DaemonState.run w evs).published) (hst : r.status ≠ .unknown) :
    ∃ ta tq tp t phc g, WEvent.poll ta tq tp (some t) phc g ∈ evs ∧
      classify t (w.Rc tp).floor = .synchronized ∧
      r.bound = boundF t + phc ∧ r.asOf = TimeSpec.ofNs (w.Mc ta).floor ∧
      r.voidAfter = ⟨r.asOf.sec + 1000, 0⟩ ∧ r.drift = w.rho := by
  obtain ⟨os, hos, rfl⟩ := (PInv.run w evs).pub r hr
  cases hl : lastSync os with
  | none => exact absurd (by simp [C08.spec, hl]) hst
  | some ba =>
    obtain ⟨ta, tq, tp, t, phc, g, hmem, hcls, hb, ha⟩ := mem_outcomes (hos (lastSync_mem hl))
    exact ⟨ta, tq, tp, t, phc, g, hmem, hcls, by simp [C08.spec, hl, hb], by simp [C08.spec, hl, ha],
      rfl, rfl⟩

/-- The arithmetic core: from a valid report at `tq`, a bound that covers it up to `eB`, a growth
    term that covers the drift over the *read* ages up to `1 + eG`, and the clock hypotheses. -/
theorem containment_core (w : World) (hw : w.Good) (ta tq tr tm : Rat)
    (h1 : ta ≤ tq) (h2 : tq ≤ tr) (h3 : tr ≤ tm)
    (E eB eG : Rat) (bound growth : Int)
    (hvalid : absR (w.Rc tq - tq) ≤ E) (hbound : E ≤ (bound : Rat) + eB)
    (hgrowth : (w.rho : Rat) * (((w.Mc tm).floor - (w.Mc ta).floor : Int) : Rat) / 1000000000 - 1 - eG ≤ (growth : Rat)) :
    absR ((((w.Rc tr).floor : Int) : Rat) - tr) <
      ((bound + growth : Int) : Rat) + 2 + (w.rho : Rat) / 1000000000 + eB + eG := by
  obtain ⟨d1, d2⟩ := hw.drift tq tr h2
  have m1 : w.Mc ta ≤ w.Mc tq := hw.mono _ _ h1
  have m2 : w.Mc tr ≤ w.Mc tm := hw.mono _ _ h3
  have fa := Rat.floor_le (w.Mc ta)
  have fm := F64.lt_floor_add_one' (w.Mc tm)
  have fr1 := Rat.floor_le (w.Rc tr)
  have fr2 := F64.lt_floor_add_one' (w.Rc tr)
  rw [absR_eq_abs, abs_le] at hvalid
  -- the drift between the report and the client's reading, against the read ages
  have hdr := mul_le_mul_of_nonneg_left
    (show w.Mc tr - w.Mc tq ≤ ((w.Mc tm).floor : ℚ) + 1 - ((w.Mc ta).floor : ℚ) by
      linarith only [m1, m2, fa, fm])
    (Nat.cast_nonneg (α := ℚ) w.rho)
  rw [absR_eq_abs, abs_lt]
  push_cast at hgrowth ⊢
  constructor <;> linarith

/-- End-to-end containment: for every history of events satisfying the hypotheses, every record
    published by it (so also a stale one), and every client query made afterwards whose status is
    Synchronized or FreeRunning, true time at the instant the realtime clock was read lies within
    [earliest − σ, latest + σ], σ = 2 + ρ/10^9 + 2^-10 ns. -/
theorem containment (w : World) (hw : w.Good) (hrho : w.rho < 1000000000)
    (evs : List WEvent) (hev : ∀ e ∈ evs, e.ok w)
    (r : Record) (hr : r ∈ (DaemonState.run w evs).published)
    (tr tm : Rat) (hrm : tr ≤ tm) (hafter : ∀ e ∈ evs, ∀ t, e.endTime = some t → t ≤ tr)
    (hR : 0 ≤ (w.Rc tr).floor ∧ (w.Rc tr).floor < 2147483648000000000)
    (hM : (w.Mc tm).floor < 2147483648000000000)
    (e l : TimeSpec) (st : Status)
    (hout : clientQuery w r tr tm = .ok e l st) (hst : st ≠ .unknown) :
    (e.toNs : Rat) - sigma w < tr ∧ tr < (l.toNs : Rat) + sigma w := by
  unfold clientQuery at hout
  -- the record is trusted, so it stems from a synchronised poll
  have hrs : r.status ≠ .unknown := fun h => hst (C09.client_sees_unknown r h _ _ e l st hout)
  obtain ⟨ta, tq, tp, t, phc, g, hmem, hcls, hb, ha, hv, hd⟩ := provenance w evs r hr hrs
  obtain ⟨h1, h2, hp0, hrest⟩ := hev _ hmem
  obtain ⟨hvalid, happ, hlt, hA0⟩ := hrest hcls
  have h3 : tp ≤ tr := hafter _ hmem tp rfl
  -- the stored bound covers the report's up to `2^-11` ns
  obtain ⟨b0, b1, bcov⟩ := boundF_covers happ hlt
  rw [← hb] at b0 b1
  -- the client's interval: half-width `bound + growth`, and the record is younger than 1000 s
  have hAM : (w.Mc ta).floor ≤ (w.Mc tm).floor :=
    Rat.floor_monotone (hw.mono _ _ (h1.trans (h2.trans (h3.trans hrm))))
  obtain ⟨hage, he, hl⟩ := computeBoundAt_ofNs ha hv hA0 hAM hM hR.1 hR.2 b0 b1 hout hst
  -- so the growth term covers the drift over the age up to `1 + 2^-11` ns: together the `2^-10` ns of `sigma`
  have hcore := containment_core w hw ta tq tr tm h1 (h2.trans h3) hrm _ (1 / 2048) (1 / 2048)
    r.bound (growth ((w.Mc tm).floor - (w.Mc ta).floor) w.rho) hvalid
    (by rw [hb]; push_cast; linarith only [bcov]) (growth_covers (by omega) hage hrho)
  rw [absR_eq_abs, abs_lt] at hcore
  unfold sigma
  rw [he, hl, hd]
  push_cast at hcore ⊢
  constructor <;> linarith only [hcore.1, hcore.2]

/-- the oracle evaluated on the implementation is this statement -/
theorem model_holds (w : World) (hw : w.Good) (hrho : w.rho < 1000000000)
    (evs : List WEvent) (hev : ∀ e ∈ evs, e.ok w)
    (r : Record) (hr : r ∈ (DaemonState.run w evs).published)
    (tr tm : Rat) (hrm : tr ≤ tm) (hafter : ∀ e ∈ evs, ∀ t, e.endTime = some t → t ≤ tr)
    (hR : 0 ≤ (w.Rc tr).floor ∧ (w.Rc tr).floor < 2147483648000000000)
    (hM : (w.Mc tm).floor < 2147483648000000000) :
    Holds w tr (clientQuery w r tr tm) = true := by
  cases hout : clientQuery w r tr tm with
  | ok e l st =>
    cases st
    · rfl
    all_goals
      obtain ⟨c1, c2⟩ :=
        containment w hw hrho evs hev r hr tr tm hrm hafter hR hM e l _ hout (by decide)
      exact Bool.and_eq_true_iff.2 ⟨decide_eq_true c1, decide_eq_true c2⟩
  | _ => rfl

/-- non-vacuity: a world with a constant 100 ns offset and ideal rates satisfies the hypotheses -/
def exampleWorld : World := ⟨fun t => t + 100, fun t => t, 50000⟩
theorem exampleWorld_good : exampleWorld.Good := by
  refine ⟨fun _ _ h => h, fun t1 t2 h => ?_⟩
  dsimp only [exampleWorld]
  push_cast
  constructor <;> linarith

end ClockBound.C01

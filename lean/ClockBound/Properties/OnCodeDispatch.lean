/-
  C08 and C09 on the writer thread's loop stated ABOUT THE SOURCE (see `OnCodeClient.lean` for the reading): each theorem mentions the
  regenerated AST `Generated.Code` run by the interpreter, and the oracle of the property; model functions occur only
  as witnesses.  Compositions of `CodeTieDispatch.process_messages_eq` / `records_eq` with the `model_holds` theorems of the properties.
-/
import ClockBound.Properties.CodeTieDispatch
import ClockBound.Properties.C08
import ClockBound.Properties.C09
namespace ClockBound.OnCode
open ClockBound ClockBound.Rs ClockBound.Generated ClockBound.Rs.DictPoller

/-- the records among the entries of the event log of a run of the writer thread -/
def recordsOf (l : List Value) : List Value := l.filter isRecordValue

/-- the model's run of the writer goes through when no step of the updater panics (one record per model message) -/
theorem writerRun_ne_none (nowNs : Int) (ms : List WMsg) (u : Updater)
    (h : (Updater.run u (ms.filterMap (WMsg.toMsg nowNs))).length = (ms.filterMap (WMsg.toMsg nowNs)).length) :
    ∃ u' l, writerRun nowNs u ms = some (u', l) := by
  fun_induction writerRun nowNs u ms with
  | case1 u => exact ⟨u, [], rfl⟩
  | case2 u m ms hm ih =>
    rw [List.filterMap_cons, hm] at h
    obtain ⟨u', l, e⟩ := ih h
    exact ⟨u', _, by rw [e]; rfl⟩
  | case3 u m ms msg hm hs => simp [hm, Updater.run, hs] at h
  | case4 u m ms msg hm u1 r hs ih =>
    simp only [List.filterMap_cons, hm, Updater.run, hs, List.length_cons, Nat.add_right_cancel_iff] at h
    obtain ⟨u', l, e⟩ := ih h
    exact ⟨u', _, by rw [e]; rfl⟩

/-- **C08 and C09 on the source**: the writer thread's loop `process_messages` of the current source, started on a
    fresh `ShmUpdater::new(_, drift)` state, fed ANY list of messages (none of which overflows an i64 field:
    `Msg.ok`) followed by `ThreadAbort`: it does not panic, returns `()`, and the records it hands to
    `ShmWrite::write`, in order, satisfy the C08 oracle (one per outcome; as-of/bound of the latest synchronised
    report, void-after = as-of + 1000 s, the configured drift, status per the FSM) and the C09 oracle (Unknown
    until a first synchronised report) -/
theorem C08_C09_process_messages (drift : Nat) (nowNs : Int) (inp : Nat → Value) (ms : List WMsg)
    (hwf : ∀ m ∈ ms, m.wf = true) (hok : ∀ m ∈ ms.filterMap (WMsg.toMsg nowNs), m.ok = true)
    (hin : inputsAt inp 0 (ms.map WMsg.recvd ++ [recvAbort])) (F : Nat) (hF : ms.length + 110 ≤ F) :
    ∃ (log : List Value) (recs : List Record),
      runFuel F (CodeTieDispatch.ctxP nowNs inp) "shm_writer::process_messages" .unit
        [contextValue "ChannelId::ShmWriter", updaterValue (Updater.new drift)] = .ok .unit .unit log ∧
      recordsOf log = recs.map recordValue ∧
      C08.Holds drift ((ms.filterMap (WMsg.toMsg nowNs)).map abstractMsg) recs = true ∧
      C09.Holds ((ms.filterMap (WMsg.toMsg nowNs)).map abstractMsg) recs = true := by
  have hlen := C08.one_publication_per_outcome drift _ hok
  obtain ⟨u', l, hw⟩ := writerRun_ne_none nowNs ms (Updater.new drift) hlen
  refine ⟨l ++ [evRecv recvAbort], Updater.run (Updater.new drift) (ms.filterMap (WMsg.toMsg nowNs)), ?_, ?_,
    C08.model_holds drift _ hok, C09.model_holds drift _⟩
  · rw [CodeTieDispatch.process_messages_eq nowNs inp ms hwf _ hin F hF, hw]
  · exact CodeTieDispatch.records_eq nowNs ms _ u' l hw

end ClockBound.OnCode

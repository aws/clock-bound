/-
  C03 — Snapshots never go back in time and catch up once the writer is idle.
-/
import ClockBound.Model.SeqlockSys
import ClockBound.Proofs.Seqlock
namespace ClockBound.C03
open ClockBound ClockBound.SL

/-- (i) along every execution the generation message behind the reader's cached snapshot never moves
    backwards in the log (publication order), as long as the reader is not re-opened -/
theorem accepted_monotone (a : Ann) (ha : a.adequate = true) (s t : Sys) (hst : Step a s t)
    (hopen : t.r ≠ ({} : Reader) ∨ s.r = ({} : Reader))
    (ver gen : Nat) (cells0 : List Nat) (hc : cells0.length = N) (hg : gen < 65536)
    (hr : Reachable a (Sys.init ver gen cells0) s)
    (hnowrap : completedUpdates t.log < 32767) :
    s.r.acceptedIdx ≤ t.r.acceptedIdx := by
  rcases hst.effect.2.2 with ⟨_, _, h, _⟩ | ⟨ht, _⟩ | ⟨g1, retries, got, _, hpc, _, _, _, h, _⟩
  · exact Nat.le_of_eq h.symm
  · rcases hopen with hne | hs
    · exact absurd ht hne
    · rw [hs, ht]; exact Nat.le_refl _
  · have hP := ((reachable_inv hc hg hr).rd ha).pc
    rw [hpc] at hP
    exact h ▸ hP.1.2.2.2.2.1

/-- the cached record always is the record as of `acceptedIdx` (or the empty record before any
    acceptance), so monotone indices mean records in publication order -/
theorem cache_is_accepted_publication (a : Ann) (ha : a.adequate = true)
    (ver gen : Nat) (cells0 : List Nat) (hc : cells0.length = N) (hg : gen < 65536)
    (s : Sys) (hr : Reachable a (Sys.init ver gen cells0) s)
    (hnowrap : completedUpdates s.log < 32767) :
    (s.r.cacheGen = 0 ∧ s.r.cache = zerosN) ∨
    (s.r.cache = pubCells s.log s.r.acceptedIdx ∧
      ∃ m, s.log[s.r.acceptedIdx]? = some m ∧ m.loc = .gen ∧ m.val = s.r.cacheGen) :=
  (reachable_cinv_few hc hg ha hr hnowrap).rel

/-- …which can only differ from the live record after a multiple of 32767 completed updates: within
    fewer than 32767 updates two even generation messages with equal values are the same message -/
theorem equal_generation_same_message (a : Ann)
    (ver gen : Nat) (cells0 : List Nat) (hc : cells0.length = N) (hg : gen < 65536)
    (s : Sys) (hr : Reachable a (Sys.init ver gen cells0) s)
    (i j : Nat) (mi mj : SL.Msg) (hi : s.log[i]? = some mi) (hj : s.log[j]? = some mj) (hij : i ≤ j)
    (hgi : mi.loc = .gen) (hgj : mj.loc = .gen) (hev : mi.val % 2 = 0) (heq : mi.val = mj.val)
    (hfew : evenGenBetween s.log i j < 32767) : i = j :=
  (reachable_inv hc hg hr).log.equal_even_gen hi hj hij hgi hgj hev heq hfew

end ClockBound.C03

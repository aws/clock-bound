/-
  C15 — If any daemon thread dies, the whole daemon exits promptly.

  Model: ClockBound/Model/Threads.lean (three threads, three FIFO channels, death enabled at every
  program point of either worker). All statements are about every state reachable from the initial
  state under arbitrary schedules, faults included. "A worker has ended" (`Ended`) means: it has left
  its loop for good — it is running / has run its Context drop (pc `exiting`, `dropping` or `done`).
  Real time is not in the model: promptness is "a bounded number of rounds", a round being a
  schedule segment in which no thread stays enabled without being scheduled; the wall-clock side
  (each round is short: the poller's iteration is bounded by the 3 s chrony time-out plus the 1 s
  mailbox wait, every other step is immediate) is checked on the real daemon by the harness
  (`C15.Holds`: returned, within the limit, log is a trace of this model).
-/
import ClockBound.Model.Threads
import ClockBound.Proofs.Threads
namespace ClockBound.C15
open ClockBound.Threads

/-- every fault is enabled at every live program point of either worker, start-up included -/
theorem die_enabled (s : State) (k : Kind) :
    (s.p.alive = true → (step s (.pollerDie k)).isSome = true) ∧
    (s.w.alive = true → (step s (.writerDie k)).isSome = true) := by
  constructor <;> intro h <;> simp [step, h]

/-- after a fault the hypothesis `Ended` of the theorems below holds, and it keeps holding (`ended_stable`); a worker
    that left its loop in any other way (Abort received, failed send) is at `exiting` too, i.e. `Ended` by definition -/
theorem death_ends {s s' : State} {a : Action} (hs : step s a = some s') (hd : a.isDie = true) :
    Ended s' := by
  cases step_iff.1 hs <;> cases hd
  · exact .inl rfl
  · exact .inr rfl

theorem ended_stable {s s' : State} {a : Action} (he : Ended s) (hs : step s a = some s') : Ended s' :=
  ended_step he hs

/-- (a) a worker never gets past its Context drop without its notice being in main's queue, unless
    main has already consumed a notice (and is therefore shutting everything down) -/
theorem notice_queued {s : State} (h : Reachable s) :
    (s.p = .dropping ∨ s.p = .done → (∃ k, Msg.notice .poller k ∈ s.qM) ∨ s.m ≠ .loop) ∧
    (s.w = .dropping ∨ s.w = .done → (∃ k, Msg.notice .writer k ∈ s.qM) ∨ s.m ≠ .loop) :=
  ⟨(reachable_inv h).noticeP, (reachable_inv h).noticeW⟩

/-- (b) once main has consumed a notice it is broadcasting (and has an enabled step) or it is
    joining / has returned, and then Abort has been queued for every worker that had not already
    ended; main never goes back to its receive loop -/
theorem abort_broadcast {s : State} (h : Reachable s) (hm : s.m ≠ .loop) :
    ((s.m = .bcast0 ∨ s.m = .bcastP ∨ s.m = .bcastW) ∧ Enabled s .main) ∨
    ((s.m = .joinP ∨ s.m = .joinW ∨ s.m = .returned) ∧
      (Msg.abort ∈ s.qP ∨ s.p.ended = true) ∧ (Msg.abort ∈ s.qW ∨ s.w.ended = true)) := by
  have hP := (reachable_inv h).abortP
  have hW := (reachable_inv h).abortW
  have hen : enabledMain s = true → Enabled s .main := productive_enabled (t := .main)
  cases hm' : s.m <;> simp_all [MainPc.sentP, MainPc.sentW, enabledMain]

/-- main leaves its receive loop only by consuming a notice -/
theorem main_leaves_loop_on_notice {s s' : State} {a : Action} (hs : step s a = some s')
    (h0 : s.m = .loop) (h1 : s'.m ≠ .loop) :
    ∃ w k rest, s.qM = Msg.notice w k :: rest ∧ s'.qM = rest ∧ s'.m = .bcast0 := by
  cases step_iff.1 hs
  case recvNotice x _ _ _ hx => cases x <;> simp_all [Msg.isNotice]
  all_goals simp_all

/-- when `run` has returned, both workers are finished and nothing can move any more: the daemon
    never lingers with only part of the pipeline alive -/
theorem returned_all_done {s : State} (h : Reachable s) (hm : s.m = .returned) :
    s.p = .done ∧ s.w = .done ∧ ∀ a, step s a = none := by
  have hi := reachable_inv h
  have hp := hi.joinedP (.inr hm)
  have hw := hi.joinedW hm
  refine ⟨hp, hw, fun a => Option.eq_none_iff_forall_ne_some.2 fun s' hs => ?_⟩
  cases step_iff.1 hs <;> simp_all [PollerPc.alive, WriterPc.alive]

/-- (c) no deadlock after a death: while `run` has not returned, some thread has an enabled
    ordinary (non-fault) step -/
theorem no_deadlock_after_death {s : State} (h : Reachable s) (he : Ended s) (hm : s.m ≠ .returned) :
    ∃ t, Enabled s t := by
  obtain ⟨t, ht⟩ := exists_productive (reachable_inv h) he hm
  exact ⟨t, productive_enabled ht⟩

/-- the special case named in the property: some worker is `done` -/
theorem no_deadlock_worker_done {s : State} (h : Reachable s) (hd : s.p = .done ∨ s.w = .done)
    (hm : s.m ≠ .returned) : ∃ a s', a.isDie = false ∧ step s a = some s' := by
  have he : Ended s := hd.imp (fun h => by rw [h]; rfl) (fun h => by rw [h]; rfl)
  obtain ⟨t, a, _, hd, hs⟩ := no_deadlock_after_death h he hm
  obtain ⟨s', hs'⟩ := Option.isSome_iff_exists.1 hs
  exact ⟨a, s', hd, hs'⟩

/-- (d) the measure `mu = rankM + rankP + rankW` (≤ 24 + |qM| + |qW|): once a worker has ended, no
    step of any thread (faults included) increases it; every step of a *productive* thread strictly
    decreases it; a productive thread is enabled and stays productive until it moves; and while `run`
    has not returned there is a productive thread -/
theorem progress_measure {s : State} (h : Reachable s) (he : Ended s) :
    (∀ a s', step s a = some s' → mu s' ≤ mu s ∧ (productive s a.thread = true → mu s' < mu s)) ∧
    (∀ t, productive s t = true → Enabled s t) ∧
    (∀ t a s', productive s t = true → step s a = some s' → a.thread ≠ t → productive s' t = true) ∧
    (s.m ≠ .returned → ∃ t, productive s t = true) ∧
    mu s ≤ 24 + s.qM.length + s.qW.length :=
  ⟨fun _ _ hs => mu_step (reachable_inv h) he hs,
   fun _ ht => productive_enabled ht,
   fun _ _ _ hp hs hne => productive_persist hp hs hne,
   fun hm => exists_productive (reachable_inv h) he hm,
   mu_le_bound s⟩

/-- every round strictly decreases the measure -/
theorem round_progress {s s' : State} {acts : List Action} (h : Reachable s) (he : Ended s)
    (hm : s.m ≠ .returned) (hr : Round s acts s') : mu s' < mu s :=
  round_decreases (reachable_inv h) he hm hr

/-- (e) from every reachable state in which a worker has ended, every schedule made of `n ≥ mu s`
    rounds ends with `run` returned, both workers finished -/
theorem exits_after_death {s s' : State} {n : Nat} (h : Reachable s) (he : Ended s)
    (hr : Rounds n s s') (hn : mu s ≤ n) : s'.m = .returned ∧ s'.p = .done ∧ s'.w = .done := by
  have hm := rounds_exit hr (reachable_inv h) he hn
  have hi := rounds_preserves inv_step hr (reachable_inv h)
  exact ⟨hm, hi.joinedP (.inr hm), hi.joinedW hm⟩

/-- (e) with the explicit bound 24 + |writer queue| + |main queue| -/
theorem exits_after_death_bound {s s' : State} {n : Nat} (h : Reachable s) (he : Ended s)
    (hr : Rounds n s s') (hn : 24 + s.qM.length + s.qW.length ≤ n) :
    s'.m = .returned ∧ s'.p = .done ∧ s'.w = .done :=
  exits_after_death h he hr (Nat.le_trans (mu_le_bound s) hn)

/-- (e) for the simple reading of "round" (every thread enabled at the start of the segment moves in it) -/
theorem exits_after_death_simple_rounds {s s' : State} {n : Nat} (h : Reachable s) (he : Ended s)
    (hr : Rounds₀ n s s') (hn : 24 + s.qM.length + s.qW.length ≤ n) :
    s'.m = .returned ∧ s'.p = .done ∧ s'.w = .done :=
  exits_after_death_bound h he (rounds_of_rounds₀ hr) hn

/-- the compiled `enabled` is the `Enabled` of the theorems -/
theorem enabled_spec (s : State) (t : Thread) : enabled s t = true ↔ Enabled s t := enabled_iff

/-- soundness of the oracle: if `Holds` accepts an observation then `run` returned within the limit
    and every model configuration compatible with the observed log is a reachable state of the model
    in which `run` has returned and both workers are finished (and there is at least one) -/
theorem holds_sound (o : Obs) (h : Holds o = true) :
    o.returned = true ∧ o.bucket = .fast ∧
    ∃ cs, replay o.log = .ok cs ∧ cs ≠ [] ∧
      ∀ c ∈ cs, Reachable c.s ∧ c.s.m = .returned ∧ c.s.p = .done ∧ c.s.w = .done := by
  simp only [Holds, finalDone, Bool.and_eq_true, decide_eq_true_eq] at h
  obtain ⟨⟨⟨h1, h2⟩, -⟩, h4⟩ := h
  cases hr : replay o.log with
  | error i => simp [hr] at h4
  | ok cs =>
    simp [hr] at h4
    exact ⟨h1, h2, cs, rfl, h4.1, fun c hc => ⟨replay_reachable hr c hc, h4.2 c hc⟩⟩

/-! ### non-vacuity: concrete reachable states with a dead worker -/

/-- the poller dies (panic) in its 2nd iteration at `wait`, after two sends the writer has not read -/
def sPollerDies2 : State :=
  ⟨.loop, .done, .start, [.notice .poller .panic], [], [.data, .data], false, true⟩

def toPollerDies2 : List Action :=
  [.poller, .poller, .poller, .poller, .pollerTimeout, .poller, .poller, .poller, .pollerDie .panic, .poller, .poller]

example : run init toPollerDies2 = some sPollerDies2 := by decide
example : Reachable sPollerDies2 := run_reachable .init (by decide : run init toPollerDies2 = some sPollerDies2)
example : Ended sPollerDies2 := Or.inl rfl
example : mu sPollerDies2 = 17 := by decide
example : enabled sPollerDies2 .main = true ∧ enabled sPollerDies2 .poller = false := by decide
/-- the backlog is read before the Abort; `run` returns -/
example : (run sPollerDies2 [.main, .mainAbort .writer, .main, .writer, .writer, .writer, .writer, .writer,
    .writer, .writer, .main, .main]).map (·.m) = some .returned := by decide

/-- the writer dies at start-up (`ShmWriter::new` fails) before main has received anything; the poller
    then panics on its first send ("Broken channel to ShmWriter") -/
def sWriterDiesAtStart : State := ⟨.loop, .start, .done, [.notice .writer .panic], [], [], true, false⟩
example : run init [.writerDie .panic, .writer, .writer] = some sWriterDiesAtStart := by decide
example : Ended sWriterDiesAtStart := Or.inr rfl
example : (run sWriterDiesAtStart [.poller, .poller, .poller, .poller]).map (·.p) = some (.exiting .panic) := by decide
example : (run sWriterDiesAtStart [.main, .mainAbort .poller, .main, .poller, .poller, .poller, .poller,
    .poller, .poller, .main, .main]).map (·.m) = some .returned := by decide

/-- both die: the writer returns, the poller panics, before main moves; two notices are queued -/
def sBothDie : State :=
  ⟨.loop, .done, .done, [.notice .writer .terminate, .notice .poller .panic], [], [], false, false⟩
example : run init [.writerDie .terminate, .pollerDie .panic, .writer, .poller, .writer, .poller] = some sBothDie := by decide
example : (run sBothDie [.main, .mainAbort .writer, .main, .main, .main]).map (·.m) = some .returned := by decide
/-- and main alone is enabled there: the other notice is never read -/
example : enabled sBothDie .main = true ∧ enabled sBothDie .poller = false ∧ enabled sBothDie .writer = false := by decide

/-- the hypothesis matters: without a death nothing forces an exit — the initial state can cycle forever
    (the measure is not decreased by the poller's loop) -/
example : (run init [.poller, .poller, .poller, .poller, .pollerTimeout]).map (·.p) = some .top := by decide

/-- why (d) speaks of *productive* threads and not of "every thread's step": after a death the poller
    can still go round its loop (here: clock read fails, mailbox wait times out) and come back to the
    very same state as long as main has not broadcast yet, so no measure decreases on each of its
    steps; what is forced to happen is main's (productive) step -/
def sWriterExiting : State := ⟨.loop, .top, .exiting .panic, [], [], [], true, true⟩
example : run init [.poller, .writerDie .panic] = some sWriterExiting := by decide
example : Ended sWriterExiting := Or.inr rfl
example : run sWriterExiting [.pollerClockFail, .pollerTimeout] = some sWriterExiting := by decide
example : productive sWriterExiting .poller = false ∧ productive sWriterExiting .writer = true := by decide

/-- the oracle on concrete observations: a faithful log is accepted, a log in which the writer keeps
    consuming after the poller died at start-up (no data was ever sent) is not, nor is "never returned" -/
example : Holds ⟨true, .fast, [.visitW .start, .faultP .start .panic, .visitW .opened, .visitW .recv, .returned]⟩ = true := by decide +kernel
example : Holds ⟨true, .fast, [.visitW .start, .faultP .start .panic, .visitW .opened, .visitW .recv, .visitW .recv, .returned]⟩ = false := by decide +kernel
example : Holds ⟨false, .never, [.visitW .start, .faultP .start .panic, .visitW .opened, .visitW .recv]⟩ = false := by decide +kernel

end ClockBound.C15

/-
  Translation tie, group `Poller`, part `Now`: `ClockErrorBound::now` (clock-bound-shm/src/lib.rs) and the
  clock ids it reads (clock-bound-shm/src/common.rs).

  `now_reads`: for EVERY record, every pair of readings the two `clock_gettime_safe` calls return (the
  first two inputs of ANY input stream) and every environment, the AST regenerated from the Rust source,
  run with the dictionary `Rs/DictPoller.lean`, reads CLOCK_REALTIME (id 0) FIRST and then `CLOCK_MONOTONIC`,
  which on Linux is CLOCK_MONOTONIC_COARSE (id 6) — `clock_ids_eq`, from the regenerated constants of
  common.rs —, i.e. the model's `clientReads`; and its result is the model's `computeBoundAt` of the record
  and of exactly these two readings, first argument the realtime one (`compute_bound_at` is inlined by the
  interpreter from the same table: the right-hand side is the one of `CodeTieClient.compute_bound_at_eq`).
  An `Err` of either read is returned as it is (`now_err_realtime`: after ONE read; `now_err_monotonic`).
  It leaves `self` unchanged, consumes two inputs, and never gets stuck.
-/
import ClockBound.Proofs.RsNow
import ClockBound.Proofs.RsClient
namespace ClockBound.CodeTieNow
open ClockBound ClockBound.Rs ClockBound.Generated ClockBound.Rs.DictPoller

/-- the context of the group `Poller`: the generated tables, the dictionary, the Linux `use` imports -/
abbrev ctxP (nowNs : Int) (sizes : List (String × Nat)) (inp : Nat → Value) : Ctx :=
  Code.ctxWith nowNs (DictPoller.ext (linuxUses Code.consts)) sizes inp

/-- the constants of common.rs that lib.rs and chrony_poller.rs import, on Linux: `CLOCK_REALTIME` is
    libc's CLOCK_REALTIME (0), `CLOCK_MONOTONIC` is libc's CLOCK_MONOTONIC_COARSE (6) -/
theorem clock_ids_eq :
    linuxUses Code.consts = [("CLOCK_REALTIME", clockId 0), ("CLOCK_MONOTONIC", clockId 6)] :=
  NowProof.linuxUses_eq

open scoped ClockBound.Rs.CallByValue

theorem now_reads (r : Record) (real mono : TimeSpec) (nowNs : Int) (sizes : List (String × Nat))
    (inp : Nat → Value) (h0 : inp 0 = okTimespec real) (h1 : inp 1 = okTimespec mono) :
    run (ctxP nowNs sizes inp) "ClockErrorBound::now" (recordValue r) []
    = (clientOutcome r (computeBoundAt r real mono)).after
        [evClockRead (clockId 0) (okTimespec real), evClockRead (clockId 6) (okTimespec mono)] := by
  -- the call of `compute_bound_at` is rewritten with the callee's equation (on values in evaluated form); what `now`
  -- does with the result is evaluated for each kind of outcome of the model
  have hc := fun ext => ClientProof.call_compute_bound_at r real mono nowNs ext sizes inp
  simp only [recordValue, ctimespecValue, statusValue] at hc
  simp only [ctxP, clock_ids_eq]
  cases hO : computeBoundAt r real mono <;>
    simp -implicitDefEqProofs only [rs_eval, rs_base, rs_code, ↓hc, Ext.Conservative, hO, clientOutcome, Outcome.toRes,
      Outcome.after, recordValue, ctimespecValue, statusValue, okTimespec, h0, h1]

/-- the two logged reads are the model's `clientReads` (`Model/World.lean`), in that order -/
theorem now_reads_order (real mono : TimeSpec) :
    [evClockRead (clockId 0) (okTimespec real), evClockRead (clockId 6) (okTimespec mono)].filterMap readActionOf
    = clientReads := rfl

/-- a failed read of CLOCK_REALTIME: the error is returned, the monotonic clock is not read -/
theorem now_err_realtime (r : Record) (e : Value) (nowNs : Int) (sizes : List (String × Nat)) (inp : Nat → Value)
    (h0 : inp 0 = .enumv "Err" [e]) :
    run (ctxP nowNs sizes inp) "ClockErrorBound::now" (recordValue r) []
    = .ok (.enumv "Err" [e]) (recordValue r) [evClockRead (clockId 0) (.enumv "Err" [e])] := by
  simp only [ctxP, clock_ids_eq, recordValue]
  simp -implicitDefEqProofs only [rs_eval, rs_base, rs_code, h0]

/-- a failed read of the monotonic clock: the error is returned -/
theorem now_err_monotonic (r : Record) (real : TimeSpec) (e : Value) (nowNs : Int) (sizes : List (String × Nat))
    (inp : Nat → Value) (h0 : inp 0 = okTimespec real) (h1 : inp 1 = .enumv "Err" [e]) :
    run (ctxP nowNs sizes inp) "ClockErrorBound::now" (recordValue r) []
    = .ok (.enumv "Err" [e]) (recordValue r)
        [evClockRead (clockId 0) (okTimespec real), evClockRead (clockId 6) (.enumv "Err" [e])] := by
  simp only [ctxP, clock_ids_eq, recordValue, okTimespec, ctimespecValue] at h0 ⊢
  simp -implicitDefEqProofs only [rs_eval, rs_base, rs_code, h0, h1]

theorem now_not_stuck (r : Record) (real mono : TimeSpec) (nowNs : Int) (sizes : List (String × Nat))
    (inp : Nat → Value) (h0 : inp 0 = okTimespec real) (h1 : inp 1 = okTimespec mono) :
    (run (ctxP nowNs sizes inp) "ClockErrorBound::now" (recordValue r) []).isStuck = false := by
  rw [now_reads r real mono nowNs sizes inp h0 h1]
  cases computeBoundAt r real mono <;> rfl

/-- non-vacuity: the hypotheses are satisfiable (an input stream that starts with two readings), and
    without the dictionary the same function is stuck at its first clock read -/
example : ∃ inp : Nat → Value, inp 0 = okTimespec ⟨1700000000, 5⟩ ∧ inp 1 = okTimespec ⟨1000, 4000000⟩ :=
  ⟨fun i => if i = 0 then okTimespec ⟨1700000000, 5⟩ else okTimespec ⟨1000, 4000000⟩, rfl, rfl⟩

example : (run (Code.ctx 0) "ClockErrorBound::now"
    (recordValue ⟨⟨1, 2⟩, ⟨3, 4⟩, 5, 6, 0, .synchronized⟩) []).isStuck = true := by
  simp -implicitDefEqProofs only [rs_eval, rs_base, rs_code, recordValue, Outcome.isStuck]

end ClockBound.CodeTieNow

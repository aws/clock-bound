/-
  C03 (second half) — …and catch up once the writer is idle.
-/
import ClockBound.Model.SeqlockSys
import ClockBound.Proofs.SeqlockReader
namespace ClockBound.C03
open ClockBound ClockBound.SL ClockBound.SLR

/-- reachable reader views are consistent with the log, so the catch-up theorems apply to them -/
theorem reachable_viewOk (a : Ann) (ver gen : Nat) (cells0 : List Nat)
    (s : Sys) (hr : Reachable a (Sys.init ver gen cells0) s) : ViewOk s.log s.r.view :=
  (sysInv_reachable hr).view

/-- run a whole `snapshot()` call with fresh reads (every load returns the newest message) on a
    log that does not change during the call (no update in flight) -/
def freshCall (a : Ann) (log : Log) (r : Reader) (fuel : Nat) : Reader × Option RResult :=
  (List.range fuel).foldl (fun (st : Reader × Option RResult) _ =>
    if st.2.isSome then st else
    let out := rStep a log st.1 0 0
    (out.1, out.2.1)) (r.call, none)

/-- (ii) catch-up: if no update is in flight (latest generation even and non-zero, version non-zero)
    and the cached generation differs from the live one, a call with fresh reads returns the record
    of the latest completed publication — not a cached older one -/
theorem catches_up (a : Ann) (log : Log) (r : Reader) (hidle : r.pc = .idle)
    (hv : latest log .version ≠ 0) (hg : latest log .gen ≠ 0) (he : latest log .gen % 2 = 0)
    (hne : r.cacheGen ≠ latest log .gen) (hview : ViewOk log r.view)
    (hcells : ∀ c, c < N → ∃ j, lastBefore log (.cell c) log.length = some j) :
    (freshCall a log r (N + 4)).2 = some (.ok ((List.range N).map (fun c => latest log (.cell c)))) := by
  -- `hidle`, `hcells` are not needed: `Reader.call` overwrites the pc, and a cell without any
  -- message reads as 0, which is also its `latest`
  have _ := hidle; have _ := hcells
  exact fresh_catches_up a log r hv hg he hne hview.2.2

/-- the documented exception: the cached generation coincides with the live one ⇒ the cache is served -/
theorem same_generation_serves_cache (a : Ann) (log : Log) (r : Reader) (hidle : r.pc = .idle)
    (hv : latest log .version ≠ 0) (heq : r.cacheGen = latest log .gen) (hview : ViewOk log r.view) :
    (freshCall a log r 2).2 = some (.ok r.cache) := by
  have _ := hidle
  have hc1 := load_cohOk .version a.rVersion 0 hview.2.2
  simp [freshCall, List.range_succ, rStep, Reader.call, load_fresh _ _ hview.2.2, load_fresh _ _ hc1, hv, heq]


example : (freshCall {} (initBlock 1 4 [11,12,13,14,15,16,2]) {} (N + 4)).2 = some (.ok [11,12,13,14,15,16,2]) := by decide

end ClockBound.C03

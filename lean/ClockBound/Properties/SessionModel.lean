/-
  The `session` lines' model of a client (`DriverS.Cl.snap`: "return the cache unless version ≠ 0, generation ≠ 0, even, and different
  from the cached generation; otherwise take the segment's record") IS `ShmReader::snapshot` on a quiescent segment: on memory that does
  not change during the call (every load of the version returns `v`, of the generation `g`, of cell `c` the `c`-th cell) the closed form
  `SL.readerProg` — which the translation tie proves equal to the interpreted source for ALL streams of load results
  (`CodeTieSeqlock.snapshot_eq`) and `SeqlockProg.readerRunG_eq_prog` proves equal to the reader machine of the C02/C03/C18 theorems —
  returns the cache and keeps the cached generation in exactly those cases, and otherwise accepts at the FIRST attempt, returns the cells
  and caches them under `g`.  So the oracle the session correspondence compares the real clients with is not a separate re-description
  of the reader.
-/
import ClockBound.Model.SeqlockProg
import ClockBound.Model.DriverSession
namespace ClockBound.SessionModel
open ClockBound ClockBound.SL

/-- the load results of one call on memory that does not change: version, generation, the seven cells, the generation again -/
def Quiescent (inp : Nat → Nat) (v g : Nat) (cells : List Nat) : Prop :=
  inp 0 = v ∧ inp 1 = g ∧ (∀ c, c < N → inp (2 + c) = cells.getD c 0) ∧ inp (2 + N) = g

/-- result, new cached generation and new cache of `snapshot()` on a quiescent segment -/
theorem snapshot_quiescent (a : Ann) (inp : Nat → Nat) (v g cacheGen : Nat) (cells cache : List Nat)
    (hl : cells.length = N) (h : Quiescent inp v g cells) :
    (readerProg a inp cacheGen cache).2 =
      if v = 0 ∨ g = 0 ∨ g = cacheGen ∨ g % 2 = 1 then (.ok cache, cacheGen, cache) else (.ok cells, g, cells) := by
  obtain ⟨h0, h1, hc, h2⟩ := h
  have hcells : attemptCells inp 2 = cells := by
    apply List.ext_getElem (by simp [attemptCells, hl])
    intro i h1 h2
    simp [attemptCells, hc i (by simpa [attemptCells] using h1), h2]
  -- on a quiescent stream the first attempt is accepted
  have hloop : readerLoop a inp RETRIES 2 g = (attemptAccs a inp 2, some (g, cells)) := by
    show readerLoop a inp (999999 + 1) 2 g = _
    simp [readerLoop, h2, hcells]
  unfold readerProg
  simp only [h0, h1, hloop]
  grind

/-- the same at the level of the session model: `Cl.snap` on records is `snapshot_quiescent` on their word images -/
theorem session_snap (c : DriverS.Cl) (s : DriverS.Seg) :
    (c.snap s).cacheGen = (if s.version = 0 ∨ s.gen = 0 ∨ s.gen = c.cacheGen ∨ s.gen % 2 = 1 then c.cacheGen else s.gen) ∧
    (c.snap s).cache = (if s.version = 0 ∨ s.gen = 0 ∨ s.gen = c.cacheGen ∨ s.gen % 2 = 1 then c.cache else s.cur) := by
  unfold DriverS.Cl.snap
  split <;> simp_all

/-- non-vacuity: a quiescent stream exists for every segment content -/
example (v g : Nat) (cells : List Nat) : ∃ inp, Quiescent inp v g cells :=
  ⟨fun i => if i = 0 then v else if i = 1 then g else if i = 2 + N then g else cells.getD (i - 2) 0,
   rfl, rfl, fun c hc => by
     show (if 2 + c = 0 then v else _) = _
     rw [if_neg (by omega), if_neg (by omega), if_neg (by omega), Nat.add_sub_cancel_left],
   by simp [N]⟩

end ClockBound.SessionModel

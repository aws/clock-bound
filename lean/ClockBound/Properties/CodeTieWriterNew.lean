/-
  Translation tie, group `Shm`, part 3: `ShmWriter::new` (clock-bound-shm/src/writer.rs) with
  `is_usable_segment` (and through it `ShmReader::new`, `FdGuard::new`, `MmapGuard::new`, `ShmHeader::read`,
  `is_valid`), `wipe`, `mmap_segment_at`, `segment_size` inlined.

  For EVERY prior state of the path that is not a directory (missing; a file that is too short, has a wrong
  magic number / version 0 / generation 0 / a declared size below 16 or below 72; a usable segment, long enough or
  shorter than 72 bytes), every file descriptor number and every parent directory text, with every operation
  succeeding (`EmbedShm.newAnswers`), the AST regenerated from the Rust source, run with the dictionary
  `Rs/DictShm.lean` (part D: the file operations), returns `Ok(ShmWriter { .. })` over the mapping and performs
  EXACTLY the state-changing operations `Crash.newOps` — same operations, same order, same values: for an
  unusable prior `create_dir_all` (iff there is a parent directory), `File::create`, `write_u32(MAGIC0)`,
  `write_u32(MAGIC1)`, `write_u32(72)`, `write_u16(0)`, `write_u16(0)`, `write_all` of 56 zero bytes, `sync_all`;
  for a usable but short file `set_len(72)`; in every case finally `version.store(1, <ordering>)` through the
  mapping (the ordering is whatever the source names, see `new_eq`).  `Properties/WriterNewProg.lean` proves that these are the operation events of `Crash.script`.
  (Queries — open, read, errno, mmap, metadata, stream_position — are not compared: `isMutEv`.)
-/
import ClockBound.Proofs.RsWriterNewFinal
import ClockBound.Properties.WriterNewProg
import ClockBound.Properties.CodeTieHeader
namespace ClockBound.CodeTieWriterNew
open ClockBound ClockBound.Rs ClockBound.Generated ClockBound.Rs.DictShm ClockBound.Rs.EmbedShm

/-- the interpreter's context: generated tables, the dictionary, the two struct sizes, an input stream -/
abbrev ctx (inp : Nat → Value) : Ctx := Code.ctxWith 0 DictShm.ext EmbedShm.sizes inp

/-- `o` is the memory ordering the source names for the final version store (`Relaxed` at HEAD), found by
    evaluation; it is the model's `SL.Ann.wVersion`, which no property constrains (`Ann.adequate` does not mention
    it), so the statement does not pin it: a refactoring that strengthens it keeps the theorem. -/
theorem new_eq (st : FileState) (hdir : st ≠ .directory) (hst : CodeTieHeader.FileState.hdrInRange st)
    (parent : String) (fd : Nat) (hfd : fd ≤ 2147483647) :
    ∃ o : SL.Ord,
    (run (ctx (streamOf (newAnswers fd (parent != "") st))) "ShmWriter::new" .unit [pathObj "shm" parent]).okWith isMutEv
    = some (writerValue SEGMENT_SIZE,
        (Crash.newOps (Crash.fileAOf st) (parent != "")).map (opValue o (pathObj "shm" parent) (pathObj parent ""))) :=
  WriterNewProof.new_on st (by rintro bs rfl; exact hst) parent fd hfd

/-- … hence, as events of the crash sweep: the operations the code performs are the operation events of
    `Crash.script` on that prior, up to `new:versioned` -/
theorem new_ops_script (st : FileState) (hasParent : Bool) :
    (Crash.newOps (Crash.fileAOf st) hasParent).filterMap Crash.Op.ev
    = (Crash.newScript (Crash.fileAOf st)).filter Crash.Ev.isOp :=
  WriterNewProg.newOps_script _ _

/-- the abstraction of the sweep's priors: a missing path and the byte images of a wiped and of a valid
    segment are the `FileA`s of `Crash.Prior` (up to the cells, which `new` does not look at) -/
example : Crash.fileAOf .missing = Crash.Prior.missing.file ∧
    (Crash.fileAOf (.file wipeBytes)).usable = false ∧
    (Crash.fileAOf (.file (encodeHeader ⟨MAGIC0, MAGIC1, 72, 1, 4⟩ ++ List.replicate 56 0))).usable = true ∧
    (Crash.fileAOf (.file (encodeHeader ⟨MAGIC0, MAGIC1, 72, 1, 4⟩ ++ List.replicate 20 0))).len = 36 := by
  refine ⟨rfl, ?_, ?_, ?_⟩ <;> decide

/-- without the dictionary `new` is stuck at its first file operation -/
example : (run (Code.ctxWith 0 Ext.none EmbedShm.sizes (fun _ => .unit)) "ShmWriter::new" .unit [pathObj "shm" ""]).isStuck = true := by
  decide +kernel

end ClockBound.CodeTieWriterNew

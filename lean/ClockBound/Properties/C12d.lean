/-
  C12 (daemon half) — the as-of instant attached to a chrony report is a monotonic-clock reading
  taken BEFORE the request to chronyd is issued.

  Subject: the ordered action list `pollActions` / event trace `pollTrace` of one iteration of
  `run_clock_error_bound_poller` (Model/Poller.lean).  The order itself is tied to the source by
  the harness: the clock reads and the query of the real loop are logged and compared, per
  iteration, with `obsLog (pollActions …)`; `C12d.Holds` is evaluated on the observed log.
-/
import ClockBound.Model.Poller
import ClockBound.Proofs.Poller
namespace ClockBound.C12d
open ClockBound

/-- in every iteration — whatever chronyd answers, with or without PHC — the first action is the
    monotonic (coarse) clock read, the second is the query, and neither is repeated -/
theorem asof_read_precedes_query (reply : ReplyKind) (phc : Option PhcCfg) :
    ∃ rest, pollActions reply phc = .readMonoCoarse :: .query :: rest ∧
      PollAction.readMonoCoarse ∉ rest ∧ PollAction.query ∉ rest := by
  refine ⟨_, rfl, ?_⟩
  repeat' split
  all_goals simp

/-- the event trace (with the values that flow) performs exactly the actions of `pollActions` -/
theorem trace_actions (s : PollerState) (coarse : TimeSpec) (reply : ReplyKind) (tReply tGrace : Int)
    (phc : Option PhcCfg) :
    (pollTrace s coarse reply tReply tGrace phc).map PollEv.action = pollActions reply phc := by
  fun_cases pollStep s coarse reply tReply tGrace phc <;>
    simp [pollTrace, pollActions, PollEv.action, *]

/-- the messages sent in the trace are exactly the message of `pollStep` (none if it panics) -/
theorem trace_send_is_step_msg (s : PollerState) (coarse : TimeSpec) (reply : ReplyKind)
    (tReply tGrace : Int) (phc : Option PhcCfg) :
    (pollTrace s coarse reply tReply tGrace phc).filterMap
        (fun e => match e with | .send m => some m | _ => none)
      = if (pollStep s coarse reply tReply tGrace phc).2 = .panic then []
        else [(pollStep s coarse reply tReply tGrace phc).2] := by
  fun_cases pollStep s coarse reply tReply tGrace phc
  all_goals simp [pollTrace, *]
  -- left: the two messages that depend on the grace test
  all_goals split <;> simp

/-- C12, daemon half: the as-of of every data message sent in an iteration is the value returned
    by the clock read that opens the iteration — the read that precedes the query
    (`asof_read_precedes_query`) — and nothing read later -/
theorem data_asof_is_first_read (s : PollerState) (coarse : TimeSpec) (reply : ReplyKind)
    (tReply tGrace : Int) (phc : Option PhcCfg) (t : Tracking) (p : Int) (a : TimeSpec)
    (h : PollEv.send (.data t p a) ∈ pollTrace s coarse reply tReply tGrace phc) :
    (pollTrace s coarse reply tReply tGrace phc).head? = some (.readMonoCoarse a) ∧
    (pollTrace s coarse reply tReply tGrace phc)[1]? = some (.query reply) := by
  have hm : (PollMsg.data t p a) ∈ (pollTrace s coarse reply tReply tGrace phc).filterMap
      (fun e => match e with | .send m => some m | _ => none) :=
    List.mem_filterMap.2 ⟨_, h, rfl⟩
  rw [trace_send_is_step_msg] at hm
  have ha : a = coarse := by
    split at hm
    · cases hm
    · rw [List.mem_singleton] at hm
      exact (pollStep_data_inv hm.symm).2.1
  subst ha
  unfold pollTrace
  exact ⟨rfl, rfl⟩

/-- consequently the data message does not depend on how long chronyd took to answer, nor on any
    `Instant` reading, nor on the poller's state: a delay can only age the as-of -/
theorem data_msg_independent_of_delay (s s' : PollerState) (asOf : TimeSpec) (t : Tracking)
    (tReply tGrace tReply' tGrace' : Int) (phc : Option PhcCfg) (p : Int) (a : TimeSpec)
    (h : (pollStep s asOf (.tracking t) tReply tGrace phc).2 = .data t p a) :
    (pollStep s' asOf (.tracking t) tReply' tGrace' phc).2 = .data t p a := by
  rw [pollStep_tracking] at h ⊢
  revert h
  cases consulted phc t with
  | none => exact id
  | some f =>
    dsimp only
    cases f.read with
    | none => exact id
    | some o =>
      cases o with
      | none => intro h; dsimp only at h; split at h <;> cases h
      | some v => exact id

/-! ### the oracle -/

theorem obsLog_prefix (reply : ReplyKind) (phc : Option PhcCfg) :
    ∃ rest, obsLog (pollActions reply phc) = 6 :: (-1) :: rest :=
  ⟨_, rfl⟩

theorem holdsIter_step (refid : Option Nat) (s : PollerState) (it : PollIter) :
    HoldsIter it.asOf (obsLog (it.actions refid)) (it.step refid s).2 = true := by
  -- the log starts with the coarse read (6) and the query (−1), whatever follows
  refine Bool.and_eq_true_iff.2 ⟨rfl, ?_⟩
  cases hm : (it.step refid s).2 with
  | data t p a =>
    exact decide_eq_true (pollStep_data_inv hm).2.1
  | _ => rfl

theorem holds_from (refid : Option Nat) (its : List PollIter) :
    ∀ s : PollerState, Holds its ((Poller.runFrom refid s its).zip (Poller.logsFrom refid s its)) = true := by
  intro s
  fun_induction Poller.runFrom refid s its with
  | case1 => rfl
  | case2 s it rest r hp =>
    rw [Poller.logsFrom, if_pos hp]
    simp only [List.zip_cons_cons, List.zip_nil_right, Holds, Bool.and_true]
    rw [← hp]
    exact holdsIter_step refid s it
  | case3 s it rest r hp ih =>
    rw [Poller.logsFrom, if_neg hp]
    simp only [List.zip_cons_cons, Holds, Bool.and_eq_true]
    exact ⟨holdsIter_step refid s it, ih⟩

/-- the decidable statement (evaluated by `cbmodel` on the log observed from the real loop) holds of
    the model's own messages and logs, for every run -/
theorem model_holds (tStart : Int) (refid : Option Nat) (iters : List PollIter) :
    Holds iters ((Poller.run tStart refid iters).zip (Poller.logs tStart refid iters)) = true :=
  holds_from refid iters (Poller.init tStart)

/-! ### non-vacuity -/

private def trk (refid : Nat) : Tracking :=
  { leap := 0, refNs := 0, offW := 0, dispW := 0, delayW := 0, intervalW := 0, refid := refid }

example : pollActions (.tracking (trk 7)) (some ⟨7, .unreadable⟩)
    = [.readMonoCoarse, .query, .readMono, .readPhc, .readMono, .send, .wait] := by decide
example : obsLog (pollActions .none none) = [6, -1, 1, -2, -3] := by decide
example : pollTrace ⟨0⟩ ⟨12, 500⟩ (.tracking (trk 7)) 10 20 (some ⟨7, .ok 9⟩)
    = [.readMonoCoarse ⟨12, 500⟩, .query (.tracking (trk 7)), .readMono 10, .readPhc (.ok 9),
       .send (.data (trk 7) 9 ⟨12, 500⟩), .wait] := by decide
/-- the oracle rejects an as-of read after the query, in the order of events and by its value -/
example : HoldsIter ⟨12, 500⟩ [-1, 6, 1, -2, -3] (.data (trk 7) 0 ⟨12, 500⟩) = false := by decide
example : HoldsIter ⟨12, 500⟩ [6, -1, 1, -2, -3] (.data (trk 7) 0 ⟨13, 500⟩) = false := by decide
example : HoldsIter ⟨12, 500⟩ [6, -1, 1, -2, -3] (.data (trk 7) 0 ⟨12, 500⟩) = true := by decide

end ClockBound.C12d

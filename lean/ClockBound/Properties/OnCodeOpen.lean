/-
  C16, client half (segment files are validated on open — through BOTH client APIs), and the open clause of C17
  (same error kind, errno and detail from both client libraries), stated ABOUT THE SOURCE — see `OnCodeClient.lean` for
  the reading.  Each theorem mentions only
    * the regenerated AST run by the interpreter: `ShmReader::new` (with `FdGuard::new`, `ShmHeader::read`,
      `is_valid`, `MmapGuard::new` inlined) in the context `CodeTieHeader.ctx` of the group `Shm`, against the system-call
      answers `EmbedShm.openAnswers none fd st` for the file state `st`; `ClockBoundClient::new_with_path` /
      `clockbound_open` / `From<ShmError> for clockbound_err` in the context `ctxE` of the group `Errors`;
    * the oracles `C16.HoldsOpen` (all three ways of opening report the documented outcome `specOpen st`) and
      `C17.HoldsOpen` (the two client libraries agree) on the answers, decoded;
  `readerOpen` / `toClient` occur only in the proofs.

  HOW THE TWO RUNS ARE LINKED.  For the client crates `ShmReader::new(path)` is a call to the environment that returns
  the first input `inp 0`.  The hypothesis `hopen` says that this input IS the value `v` the interpreted
  `ShmReader::new` of the same source returns, RECODED: the groups `Shm` and `Errors` write `errno::Errno` and the
  `&'static CStr` origin differently (`ErrorsProof.recodeResult`, `Proofs/OnCodeErrors.lean`); a returned reader is
  passed on unchanged (the struct `EmbedShm.freshReaderValue`).

  Compositions of `CodeTieHeader.reader_new_eq`, `CodeTieErrors.rust_open_eq` / `ffi_open_eq` / `ffi_from_eq_all` (and their
  struct-reader forms `ErrorsProof.rust_open_ok_struct` / `ffi_open_ok_struct`) with `C16.model_holds_open`,
  `C17.model_holds_open`, `ErrorsProg.toClient_full`.
-/
import ClockBound.Properties.CodeTieErrors
import ClockBound.Properties.CodeTieHeader
import ClockBound.Proofs.OnCodeErrors
import ClockBound.Properties.C16
import ClockBound.Properties.C17
namespace ClockBound.OnCode
open ClockBound ClockBound.Rs ClockBound.Generated ClockBound.Rs.DictErrors ClockBound.Rs.EmbedErrors
open ClockBound.Rs.ErrorsProof ClockBound.Rs.EmbedShm

/-- the value a call returned (`none`: it panicked or left the interpreted fragment) -/
def retOfOpen : Rs.Outcome → Option Value
  | .ok v _ _ => some v
  | _ => none

/-- the answer of either `open`, decoded: the reader that was handed on, or the error (kind, errno, origin) -/
abbrev OpenAnswer := Except ClientErr Value

/-- `Result<ClockBoundClient, ClockBoundError>` -/
def rustOpenValue : OpenAnswer → Value
  | .ok rd => .enumv "Ok" [clientOf rd]
  | .error c => .enumv "Err" [clientErrValue c.full]

/-- what `ClockBoundClient::new_with_path("path")` of the current source does: ONE call `ShmReader::new` on the
    path as a C string (which returned `inp 0`), and its answer, decoded -/
def RustOpenAnswers (inp : Nat → Value) (a : OpenAnswer) : Prop :=
  run (ctxE inp) "ClockBoundClient::new_with_path" .unit [.str "path"]
    = .ok (rustOpenValue a) .unit [evOpen cstrValue (inp 0)]

/-- what `clockbound_open("path", err)` of the current source does (`err` NULL or valid): the same single call;
    then a new context holding the reader and the default error {NONE, 0, NULL}, or NULL — after `err.write(e.into())` when `err` is not NULL, where the
    `From<ShmError> for clockbound_err` of the same source turns that `e` into the error of the answer -/
def FfiOpenAnswers (inp : Nat → Value) (errNull : Bool) (a : OpenAnswer) : Prop :=
  match a with
  | .ok rd =>
    run (ctxE inp) "ffi_lib::clockbound_open" .unit [cptr (.str "path"), errArg errNull]
      = .ok (heapPtr (ctxOf (ffiErrValue ⟨.none, 0, none⟩) rd)) .unit [evOpen cstrValue (inp 0)]
  | .error c =>
    ∃ e : ShmErrorV,
      run (ctxE inp) "ffi_lib::clockbound_open" .unit [cptr (.str "path"), errArg errNull]
        = .ok nullPtr .unit (evOpen cstrValue (inp 0) ::
            (if errNull then [] else [evWrite "err" (intoValue (shmErrorValue e))])) ∧
      run (ctxE inp) "From<ShmError> for clockbound_err::from" .unit [shmErrorValue e] = .ok (ffiErrValue c.full) .unit []

/-- what the harness compares: ok, or the error -/
def OpenAnswer.res (a : OpenAnswer) : C16.Res ClientErr := C16.Res.ofExcept a

theorem retOfOpen_noLog (o : Rs.Outcome) (v s : Value) (h : o.noLog = .ok v s []) : retOfOpen o = some v := by
  cases o <;> simp_all [Outcome.noLog, retOfOpen]

/-- **C16 (client half) and C17 (open clause), on the source.**  For EVERY state `st` of the path — missing, a
    directory, a file with ANY bytes (header fields within their widths) —, any descriptor number, `err` NULL or
    valid, when the system calls answer as that state prescribes:
    * `ShmReader::new` of the current source returns a value `v` that decodes to `sr` — ok, or a `ShmError`;
    * fed with that value, BOTH `ClockBoundClient::new_with_path` and `clockbound_open` of the current source make
      exactly one call `ShmReader::new(path)` and give the SAME answer `a`: the reader handed on (inside a
      `ClockBoundClient` / a new `clockbound_ctx`), or the error converted by their `From<ShmError>`;
    * the three answers satisfy the C16 oracle: each is the documented outcome for `st` (`specOpen`: ok iff magic,
      version ≠ 0, generation ≠ 0 and declared size ≥ 72; else not-initialised / malformed / the failing system call
      with its errno and origin), the client ones with kind, errno and detail of that error;
    * and the C17 oracle: the Rust client and the C library agree. -/
theorem C16_C17_open_api (st : FileState) (hst : CodeTieHeader.FileState.hdrInRange st) (fd : Nat) (hfd : fd ≤ 2147483647)
    (errNull : Bool) (inp : Nat → Value)
    (hopen : ∃ v, retOfOpen (run (CodeTieHeader.ctx (streamOf (openAnswers none fd st))) "ShmReader::new" .unit [cstrValue])
        = some v ∧ inp 0 = recodeResult v) :
    ∃ (sr : Except ShmErr Header) (a : OpenAnswer),
      retOfOpen (run (CodeTieHeader.ctx (streamOf (openAnswers none fd st))) "ShmReader::new" .unit [cstrValue])
        = some (openValue sr) ∧
      RustOpenAnswers inp a ∧ FfiOpenAnswers inp errNull a ∧
      C16.HoldsOpen st (some (C16.Res.ofExcept sr)) (some a.res) (some a.res) = true ∧
      C17.HoldsOpen (some a.res) (some a.res) = true := by
  have hnew := retOfOpen_noLog _ _ _ (CodeTieHeader.reader_new_eq none st hst fd hfd)
  obtain ⟨v, hv, h0⟩ := hopen
  cases hnew.symm.trans hv
  rw [recodeResult_openValue] at h0
  have hspec := C16.model_holds_open st
  have hnul : ("path" : String).contains (Char.ofNat 0) = false := by simp
  unfold readerOpen at hspec
  cases hr : readerOpenLim none st with
  | ok hd =>
    rw [hr] at h0 hspec
    refine ⟨.ok hd, .ok (freshReaderValue hd.segsize), hnew.trans (by rw [hr]), ?_, ?_, hspec, C17.model_holds_open _⟩
    · exact rust_open_ok_struct inp "path" _ hnul h0
    · exact ffi_open_ok_struct inp (.str "path") errNull _ h0
  | error e =>
    rw [hr] at h0 hspec
    have h0' : inp 0 = openResValue (.error e.full) := h0
    refine ⟨.error e, .error e.toClient, hnew.trans (by rw [hr]), ?_, ⟨e.full, ?_, ?_⟩, hspec, C17.model_holds_open _⟩
    · unfold RustOpenAnswers
      rw [CodeTieErrors.rust_open_eq inp "path" (.error e.full) hnul h0', h0']
      simp only [rustOpenOutcome, clientOpen, EmbedErrors.resultValue, rustOpenValue, ErrorsProg.toClient_full]
      rfl
    · rw [CodeTieErrors.ffi_open_eq inp (.str "path") errNull (.error e.full) h0', h0']
      rfl
    · rw [← ErrorsProg.toClient_full]; exact CodeTieErrors.ffi_from_eq_all inp e.full

/-- the linking hypothesis is satisfiable for every file state: `ShmReader::new` of the current source returns a
    value (it neither panics nor gets stuck — "never a crash"), so a client stream that starts with its recoding exists -/
theorem C16_reader_new_returns (st : FileState) (hst : CodeTieHeader.FileState.hdrInRange st) (fd : Nat) (hfd : fd ≤ 2147483647) :
    ∃ (v : Value) (inp : Nat → Value),
      retOfOpen (run (CodeTieHeader.ctx (streamOf (openAnswers none fd st))) "ShmReader::new" .unit [cstrValue]) = some v ∧
      inp 0 = recodeResult v :=
  ⟨_, fun _ => recodeResult (openValue (readerOpenLim none st)),
    retOfOpen_noLog _ _ _ (CodeTieHeader.reader_new_eq none st hst fd hfd), rfl⟩

/-- C16, the kinds spelled out through both APIs: a missing file is ENOENT from `open`, a directory EISDIR from `read`,
    an empty file not-initialised, a valid header that declares 71 bytes malformed, a complete segment opens -/
example : C16.specOpen .missing = .err (.sys ENOENT .open_) ∧ C16.specOpen .directory = .err (.sys EISDIR .read) ∧
    C16.specOpen (.file []) = .err .notInit ∧
    C16.specOpen (.file (encodeHeader ⟨MAGIC0, MAGIC1, 71, 1, 2⟩ ++ List.replicate 56 0)) = .err .malformed ∧
    C16.specOpen (.file (encodeHeader ⟨MAGIC0, MAGIC1, 72, 1, 2⟩ ++ List.replicate 56 0)) = .ok := by
  refine ⟨rfl, rfl, rfl, ?_, ?_⟩ <;> decide

/-- the range hypothesis is satisfiable, and the oracle is not trivially true -/
example : CodeTieHeader.FileState.hdrInRange (.file (encodeHeader ⟨MAGIC0, MAGIC1, 72, 1, 2⟩ ++ List.replicate 56 0)) := by decide
example : C16.HoldsOpen .missing (some (.err (.sys ENOENT .open_))) (some (.err ⟨.syscall, 2, some .open_⟩))
    (some (.err ⟨.notInit, 0, none⟩)) = false := by decide

end ClockBound.OnCode

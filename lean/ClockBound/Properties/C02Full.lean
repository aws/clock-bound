/-
  C02 at full strength — without the hypothesis that fewer than 32767 updates complete between the
  two generation reads of one attempt — is FALSE of the protocol, because the generation is a 16-bit
  counter: a reader stalled inside one attempt while exactly 32767 updates complete re-reads the
  same generation value and accepts a mixture (known finding K1; replayed on the real code by the
  `slaba` scenario). This file proves the negation with an explicit execution of the model.
-/
import ClockBound.Model.SeqlockSys
import ClockBound.Proofs.SeqlockAba
namespace ClockBound.C02
open ClockBound ClockBound.SL

def cellsA : List Nat := List.replicate N 7
def cellsB : List Nat := List.replicate N 9

/-- the set a returned record must belong to (as in `C02.Good`) -/
def GoodFull (cells0 : List Nat) (s : Sys) (c : List Nat) : Prop :=
  c = zerosN ∨ c = cells0 ∨ c ∈ s.written

/-- even with the adequate (repaired) annotation there is a reachable state in which `snapshot` has
    returned a record that is neither the empty one, nor the pre-existing one, nor one ever passed to
    `write`: the first three cells of the old record followed by four cells of the new one. -/
theorem full_false :
    ∃ s : Sys, Reachable ({} : Ann) (Sys.init 1 4 cellsA) s ∧
      ∃ c ∈ s.returned, ¬ GoodFull cellsA s c := by
  obtain ⟨s, hr, hret, hw⟩ := SLA.aba_execution {}
  refine ⟨s, hr, [7, 7, 7, 9, 9, 9, 9], by rw [hret]; exact List.mem_singleton.mpr rfl, ?_⟩
  rintro (h | h | h)
  · exact absurd h (by decide)
  · exact absurd h (by decide)
  · exact absurd (hw _ h) (by decide)

/-- the arithmetic heart: 32767 completed updates bring the 16-bit generation back to where it was -/
theorem generation_cycle (g : Nat) (hg : g % 2 = 0) (h2 : 2 ≤ g) (h : g < 65536) :
    (List.range 32767).foldl (fun x _ => genFinish (genStart x)) g = g :=
  SLA.iter_cycle g hg h2 h

end ClockBound.C02

/-
  Translation tie, part 2: `impl From<u16> for ChronyClockStatus` (clock-bound-d/src/lib.rs).

  The AST that the translator regenerated from the Rust source (`Generated.Code.fns`), run by the
  interpreter `Rs.run`, classifies every leap status exactly like the hand-written `leapClass`.
-/
import ClockBound.Proofs.RsEval
import ClockBound.Generated.Code
namespace ClockBound.CodeTieLeap
open ClockBound ClockBound.Rs ClockBound.Generated

open scoped ClockBound.Rs.CallByValue

/-- for every leap value (no range hypothesis needed) and every environment -/
theorem leap_from_eq_all (leap : Nat) (nowNs : Int) :
    run (Code.ctx nowNs) "From<u16> for ChronyClockStatus::from" .unit [.int .u16 leap]
      = .ok (chronyValue (leapClass leap)) .unit [] := by
  simp -implicitDefEqProofs only [rs_eval, rs_base, rs_code]
  unfold leapClass
  repeat' split
  all_goals first | rfl | omega | simp [chronyValue, chronyName]

/-- the contract form: for every `u16` -/
theorem leap_from_eq (leap : Nat) (_h : leap < 65536) (nowNs : Int) :
    run (Code.ctx nowNs) "From<u16> for ChronyClockStatus::from" .unit [.int .u16 leap]
      = .ok (chronyValue (leapClass leap)) .unit [] :=
  leap_from_eq_all leap nowNs

end ClockBound.CodeTieLeap

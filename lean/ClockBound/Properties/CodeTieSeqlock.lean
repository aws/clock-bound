/-
  Translation tie, group `Shm`, part 1: the seqlock — `ShmWrite for ShmWriter::write`
  (clock-bound-shm/src/writer.rs) and `ShmReader::snapshot` (clock-bound-shm/src/reader.rs).

  The AST regenerated from the Rust source, run by the interpreter (`Rs/Interp.lean`) with the dictionary
  `Rs/DictShm.lean` (atomics, fences, the volatile record copy), performs EXACTLY the shared accesses — same
  locations, same order, same memory orderings, same values — and computes exactly the result and the new
  cache of the closed-form programs `SL.writerProg` / `SL.readerProg` of `Model/SeqlockProg.lean`, which
  `Properties/SeqlockProg.lean` proves to BE the machines `SL.wStep` / `SL.rStep` that the theorems of
  C02, C03, C04, C11, C18 are about.  For ALL load results (the input stream), all records, all caches.

  Embeddings (`Rs/EmbedShm.lean`, trusted): a record in memory is its seven 64-bit words (`wordsValue`);
  accesses are `SL.Acc` (`accValue`); the k-th load returns the k-th number of the stream, reduced to the
  width of the location it reads (`typedInp`: the identity on a well-typed stream).
-/
import ClockBound.Proofs.RsSnapshot
import ClockBound.Properties.SeqlockProg
namespace ClockBound.CodeTieSeqlock
open ClockBound ClockBound.Rs ClockBound.Generated ClockBound.Rs.DictShm ClockBound.Rs.EmbedShm

open scoped ClockBound.Rs.CallByValue
-- `write` meets part A of the dictionary only (see `Proofs/RsSeqlock.lean`)
attribute [-rs_eval] DictShm.methodB DictShm.methodC DictShm.methodD DictShm.callC DictShm.callD

/-- the interpreter's context: generated tables, the dictionary of this group, raw load results -/
abbrev ctx (nowNs : Int) (sizes : List (String × Nat)) (inp : Nat → Nat) : Ctx :=
  Code.ctxWith nowNs DictShm.ext sizes (rawInp inp)

/-- THE ANNOTATION OF THE CODE: the memory orderings the source names for the writer's generation load, two
    generation stores and fence, and for the reader's version load, two generation loads and fence — found by
    evaluation (probe runs of `write`, of the statements of `snapshot` before its loop and of one loop iteration;
    `Proofs/RsSeqlock.lean`), not written in any proof.  At HEAD it is the model's default `{}`
    (`Properties/CodeTieSeqlockHead.lean`); a refactoring that STRENGTHENS an ordering changes this value, not the
    theorems below. -/
def ann : SL.Ann := SeqlockProof.snapAnn

/-- … and it is one of the annotations the seqlock properties are proved for: `C02.no_mixture`,
    `C03.accepted_monotone`, … hold for every adequate annotation, hence for the code's.  (A weakened ordering —
    the seeded C02/C03 mutations — makes this theorem fail.) -/
theorem ann_adequate : ann.adequate = true := by
  rw [ann, SeqlockProof.snapAnn_eq]
  rfl

/-! ### the writer -/

/-- `ShmWriter::write(&mut self, ceb)`: with the generation load returning `g = inp 0` (as a `u16`), the
    code performs exactly the accesses of `SL.writerProg ann g cells` (`cells` = the words of `*ceb`), returns
    `()` and leaves `self` unchanged.  No hypothesis: every `g`, every list of words. -/
theorem write_eq (inp : Nat → Nat) (cells : List Nat) (segsize : Nat) (nowNs : Int) (sizes : List (String × Nat)) :
    run (ctx nowNs sizes inp) "ShmWrite for ShmWriter::write" (writerValue segsize) [wordsValue cells]
    = .ok .unit (writerValue segsize) ((SL.writerProg ann (inp 0 % 65536) cells).map accValue) := by
  obtain ⟨g, hg, hgi, hgn⟩ : ∃ g : Nat, g < 65536 ∧ ((inp 0 : Nat) : Int) % 65536 = (g : Int) ∧ inp 0 % 65536 = g :=
    ⟨inp 0 % 65536, Nat.mod_lt _ (by decide), by omega, rfl⟩
  simp -implicitDefEqProofs only [rs_eval, rs_base, rs_code, rawInp, writerValue, wordsValue, hgi, hgn]
  simp only [SL.writerProg, ann, SeqlockProof.snapAnn_eq, SeqlockProof.annVal, List.map_append, List.map_cons, List.map_nil,
    accValue, locValue, locTy, ordValue, SeqlockProof.wordStores_eq, Nat.zero_add, List.cons_append, List.nil_append]
  rw [genFinish_int, genStart_int]
  clear hgi hgn
  -- the arithmetic: parity test by `& 1`, first store by `wrapping_add` or `| 1`, roll-over by `== 0`
  try simp only [lor_one]
  split_ifs <;> simp_all [ordering, evStore, evLoad, evFence] <;> omega

/-- the value range the Rust type forces on the generation: a `u16` -/
def genInRange (g : Nat) : Prop := g < 65536
instance (g : Nat) : Decidable (genInRange g) := by unfold genInRange; infer_instance
example : genInRange 65535 := by decide

/-- … for a `u16` generation `g` and the words of a record `r` (`pad` = the four padding bytes) -/
theorem write_record_eq (g : Nat) (hg : genInRange g) (inp : Nat → Nat) (h0 : inp 0 = g) (r : Record) (pad : Nat)
    (segsize : Nat) (nowNs : Int) (sizes : List (String × Nat)) :
    run (ctx nowNs sizes inp) "ShmWrite for ShmWriter::write" (writerValue segsize) [wordsValue (Pipeline.cellsOf r pad)]
    = .ok .unit (writerValue segsize) ((SL.writerProg ann g (Pipeline.cellsOf r pad)).map accValue) := by
  rw [write_eq, h0, Nat.mod_eq_of_lt hg]

/-- the generated code never leaves the fragment the interpreter and the dictionary have rules for -/
theorem write_not_stuck (inp : Nat → Nat) (cells : List Nat) (segsize : Nat) (nowNs : Int) (sizes : List (String × Nat)) :
    (run (ctx nowNs sizes inp) "ShmWrite for ShmWriter::write" (writerValue segsize) [wordsValue cells]).isStuck = false := by
  rw [write_eq]; rfl

/-- without the dictionary the same call is stuck at its first shared access (non-vacuity of the rules) -/
example : (run (Code.ctx 0) "ShmWrite for ShmWriter::write" (writerValue 72) [wordsValue [1, 2, 3, 4, 5, 6, 7]]).isStuck = true := by
  decide +kernel

/-- an example: roll-over 65534 → 65535 → 2, record words 1..7 -/
example : SL.storesOf (SL.writerProg {} 65534 [1, 2, 3, 4, 5, 6, 7]) =
    [(.gen, 65535), (.cell 0, 1), (.cell 1, 2), (.cell 2, 3), (.cell 3, 4), (.cell 4, 5), (.cell 5, 6), (.cell 6, 7), (.gen, 2)] := by
  decide

/-! ### the reader -/

/-- `ShmReader::snapshot(&mut self)`: for EVERY stream of load results `inp`, every cached generation and
    record, and every fuel ≥ RETRIES + 200 (one unit per retry plus the depth of the function), the code
    performs exactly the accesses, returns the result (`Ok(&snapshot_ceb)` / `Err(SegmentNotInitialized)`) and
    leaves `snapshot_gen` / `snapshot_ceb` as `SL.readerProg ann (typedInp inp) cacheGen cache` says. -/
theorem snapshot_eq (inp : Nat → Nat) (cacheGen : Nat) (cache : List Nat) (nowNs : Int) (sizes : List (String × Nat))
    (fuel : Nat) (hfuel : SL.RETRIES + 200 ≤ fuel) :
    runFuel fuel (ctx nowNs sizes inp) "ShmReader::snapshot" (readerValue cacheGen cache) []
    = readerOutcome (SL.readerProg ann (typedInp inp) cacheGen cache) := by
  obtain ⟨F, rfl⟩ : ∃ F, fuel = F + 200 := ⟨fuel - 200, by omega⟩
  exact SeqlockProof.snapshot_tie inp cacheGen cache nowNs sizes F (by omega)

/-- on a well-typed stream (`u16` at version/generation, 64-bit words in the record) nothing is reduced -/
theorem snapshot_eq_typed (inp : Nat → Nat) (hinp : ∀ k, inp k < loadCard k) (cacheGen : Nat) (cache : List Nat)
    (nowNs : Int) (sizes : List (String × Nat)) (fuel : Nat) (hfuel : SL.RETRIES + 200 ≤ fuel) :
    runFuel fuel (ctx nowNs sizes inp) "ShmReader::snapshot" (readerValue cacheGen cache) []
    = readerOutcome (SL.readerProg ann inp cacheGen cache) := by
  rw [snapshot_eq inp cacheGen cache nowNs sizes fuel hfuel, SeqlockProof.typedInp_id inp hinp]

/-- … and therefore the code is the reader MACHINE (`SL.rStepG`, i.e. `SL.rStep` with the memory's answers
    passed in) run on that stream: result, accesses, new cache -/
theorem snapshot_machine (inp : Nat → Nat) (r : SL.Reader) (nowNs : Int) (sizes : List (String × Nat))
    (fuel : Nat) (hfuel : SL.RETRIES + 200 ≤ fuel) (mfuel : Nat) (hm : SL.stepBound ≤ mfuel) :
    let out := SL.readerRunG ann (typedInp inp) mfuel r.call 0 []
    ∃ res, out.2.1 = some res ∧
      runFuel fuel (ctx nowNs sizes inp) "ShmReader::snapshot" (readerValue r.cacheGen r.cache) []
      = .ok (resultValue res) (readerValue out.1.cacheGen out.1.cache) (out.2.2.map accValue) := by
  intro out
  obtain ⟨h1, h2, h3, h4, _⟩ := SeqlockProg.readerRunG_eq_prog ann (typedInp inp) r mfuel hm
  refine ⟨_, h1, ?_⟩
  rw [snapshot_eq inp r.cacheGen r.cache nowNs sizes fuel hfuel]
  simp only [readerOutcome, out, h2, h3, h4]

/-- the ranges hold for a typical stream; the statement is not vacuous: a record accepted at the second
    attempt (version 1, generation 4; first re-check sees 6, second attempt confirmed under 6) -/
example :
    let inp : Nat → Nat := fun k => if k = 0 then 1 else if k = 1 then 4 else if k = 9 then 6 else if k = 17 then 6 else k
    inpInRange inp 40 ∧
    (SL.readerProg {} (typedInp inp) 2 (List.replicate SL.N 0)).2
      = (.ok [10, 11, 12, 13, 14, 15, 16], 6, [10, 11, 12, 13, 14, 15, 16]) ∧
    (SL.readerProg {} (typedInp inp) 2 (List.replicate SL.N 0)).1.length = 2 + 2 * (SL.N + 2) := by
  decide

/-- without the dictionary `snapshot` is stuck at its first shared access -/
example : (runFuel 300 (Code.ctx 0) "ShmReader::snapshot" (readerValue 2 [0, 0, 0, 0, 0, 0, 0]) []).isStuck = true := by
  decide +kernel

end ClockBound.CodeTieSeqlock

/-
  Translation tie, group `Poller`: the chrony poller thread (clock-bound-d/src/chrony_poller.rs) —
  `run_clock_error_bound_poller` with the REAL `ClockErrorBoundPoller` (`get_tracking`,
  `is_within_grace_period`, resolved through the `impl ChronyOperations` parameter by the value's type),
  `get_phc_error_bound_from_path`, `Default for ClockErrorBoundPoller`, `run`.

  `iteration_eq`: ONE TURN of the loop, found in the function by `Rs.findLoop` (a `while` or a `loop`), started in
  the loop-top state with poller state `s` (`topP`: computed by the interpreter, `Rs/EmbedLoop.lean`), for ALL inputs: the reading `coarse` of
  `clock_gettime_safe(CLOCK_MONOTONIC)`, the outcome `reply` of `blocking_query_uds` (Err / a reply whose
  body is any other variant / Tracking t), the `Instant` readings `tReply`, `tGrace`, the configured PHC
  reference `refid` and the state `file` of its sysfs file (an unreadable one failing at `open` or at
  `read_to_string`), every result of `recv_timeout`, every input stream `inp` that provides these values
  from position `pos` on (`inputsAt`), every fuel `N ≥ 60`.  The events the interpreter appends to its log
  are EXACTLY the model's `pollTrace s coarse reply tReply tGrace phc` (clock read of id 6 =
  CLOCK_MONOTONIC_COARSE, query with request `Tracking`, `Instant` reads, sysfs read with its path, the send
  to `ChannelId::ShmWriter` with the message, the wait with the sleep time), one input is consumed per event,
  the new `last_tracking_data` is `(pollStep ..).1.lastGood`, the loop is over iff the mailbox
  returned `Ok(ThreadAbort)` and otherwise goes on from the top state with the new poller state; where the model's message is `panic`
  (`expect` on an unparsable / out-of-range sysfs value) the thread panics.
  `default_eq` (`Poller.init`), `grace_eq` (`withinGrace`, strict `<` 5 s).
  `iteration_send_fails`: the same iteration with `send` returning `Err`: the thread panics.
  `iteration_clock_fails`: the clock read returns `Err`: nothing is queried or sent, the thread waits.
  `loop_eq`: the WHOLE function `run_clock_error_bound_poller`, for all finite histories `xs ++ [last]` of
  iterations (`IterIn` = the model's `PollIter` + the rest of the environment) in which `recv_timeout` returns
  `Ok(ThreadAbort)` exactly in the last one (unexpected messages, timeouts and errors keep the loop running),
  all input streams that provide the inputs these iterations consume (`pollRunInputs`), every fuel
  `≥ xs.length + 75`: the log is the concatenation of the `pollTrace`s threaded through `PollIter.step`
  (`pollRun`), it returns `()`; a `panic` message of the model anywhere is a panic.  `loop_send_fails`: a
  history whose last iteration's send fails panics.  `run_eq`: the thread's entry point `run` =
  `default` (one `Instant` read, `Poller.init`), a sleep of 1000 ms, and that loop.
-/
import ClockBound.Proofs.RsPollerLoop
namespace ClockBound.CodeTiePoller
open ClockBound ClockBound.Rs ClockBound.Generated ClockBound.Rs.DictPoller

attribute [-rs_eval] List.lookup

/-- the context of the group: generated tables, dictionary, Linux `use` imports (`CodeTieNow.clock_ids_eq`) -/
abbrev ctxP (nowNs : Int) (inp : Nat → Value) : Ctx :=
  Code.ctxWith nowNs (DictPoller.ext (linuxUses Code.consts)) [] inp

/-- frame of `run_clock_error_bound_poller` (module, no `Self`, return type) -/
abbrev frP : Frame := ⟨"chrony_poller", "", "()"⟩

/-- `phc_info` with the state of its file during this iteration (`PollIter.phc` of the model) -/
abbrev phcOf (refid : Option Nat) (file : PhcFile) : Option PhcCfg := refid.map fun r => ⟨r, file⟩

/-- the state at the top of the loop of `run_clock_error_bound_poller` (however the loop is written), with poller
    state `s`, event log `log` and `pos` inputs consumed: computed by the interpreter from the arguments and the
    statements `pre` before the loop (`Rs.topSt`) -/
abbrev topP (nowNs : Int) (inp : Nat → Value) (pre : List Stmt) (e : IterEnv) (s : PollerState) (refid : Option Nat)
    (log : List Value) (pos : Nat) : St :=
  topSt (ctxP nowNs inp) Code.fn_chrony_poller__run_clock_error_bound_poller (pollerArgs e s refid) pre log pos

/-- ONE TURN of the loop (`Rs.findLoop`: a `while` or a `loop`, whatever precedes it), see the header: panic where
    the model's message is `panic`; else the loop is over (`done`) when `recv_timeout` returned `Ok(ThreadAbort)`, and
    otherwise goes on (`next`) from the top state with the model's new poller state — in both cases with the events
    of `pollTrace` appended to the log and one input consumed per event -/
theorem iteration_eq (e : IterEnv) (s : PollerState) (coarse : TimeSpec) (reply : ReplyKind) (tReply tGrace : Int)
    (refid : Option Nat) (file : PhcFile) (nowNs : Int) (inp : Nat → Value) (log : List Value) (pos : Nat)
    (pre : List Stmt) (c : Expr) (body : List Stmt)
    (hfl : findLoop Code.fn_chrony_poller__run_clock_error_bound_poller.body = some (pre, c, body))
    (hother : e.other ≠ "ReplyBody::Tracking") (hsend : e.sendRes = okUnit)
    (hin : inputsAt inp pos ((pollTrace s coarse reply tReply tGrace (phcOf refid file)).map (pollEvInput e)))
    (K : Nat) (hK : 60 ≤ K) :
    turnIs (ctxP nowNs inp) frP c body K
      (evalWhile (K + 2) (ctxP nowNs inp) frP c body (topP nowNs inp pre e s refid log pos))
      (if (pollStep s coarse reply tReply tGrace (phcOf refid file)).2 = .panic then .panic
       else if e.isAbort = true then
         .done (log ++ (pollTrace s coarse reply tReply tGrace (phcOf refid file)).map (pollEvValue e))
           (pos + (pollTrace s coarse reply tReply tGrace (phcOf refid file)).length)
       else .next (topP nowNs inp pre e (pollStep s coarse reply tReply tGrace (phcOf refid file)).1 refid
          (log ++ (pollTrace s coarse reply tReply tGrace (phcOf refid file)).map (pollEvValue e))
          (pos + (pollTrace s coarse reply tReply tGrace (phcOf refid file)).length))) :=
  PollerProof.iteration e s coarse reply tReply tGrace refid file nowNs inp log pos pre c body hfl hother hsend hin K hK

/-- `impl Default for ClockErrorBoundPoller` = the model's `Poller.init`: `Instant::now()` (the input `tStart`,
    logged) minus the 5 s of `CHRONY_RESTART_GRACE_PERIOD`; the `unwrap` panics exactly when `checked_sub` leaves
    the range of an `Instant` (`DictPoller.instantLo`) -/
theorem default_eq (tStart nowNs : Int) (inp : Nat → Value) (h0 : inp 0 = instant tStart) :
    run (ctxP nowNs inp) "Default for ClockErrorBoundPoller::default" .unit []
    = if instantLo ≤ tStart - GRACE_NS then
        .ok (pollerValue (Poller.init tStart)) .unit [evInstantNow (instant tStart)]
      else .panic := by
  simp only [PollerProof.ctxP_eq, PollerProof.pollerValue_eq, run, runFuel, defaultFuel]
  simp -implicitDefEqProofs only [rs_eval, rs_base, rs_code, ↓PollerProof.default_call nowNs inp (h0 := h0)]

/-- `is_within_grace_period` = the model's `withinGrace` (strict `<` 5 s on the saturating `elapsed()`),
    `tGrace` = the reading of the monotonic clock inside `elapsed()` (one input, logged); `self` is unchanged -/
theorem grace_eq (s : PollerState) (tGrace nowNs : Int) (inp : Nat → Value) (h0 : inp 0 = instant tGrace) :
    run (ctxP nowNs inp) "ChronyOperations for ClockErrorBoundPoller::is_within_grace_period" (pollerValue s) []
    = .ok (.bool (s.withinGrace tGrace)) (pollerValue s) [evInstantNow (instant tGrace)] := by
  simp only [PollerProof.ctxP_eq, PollerProof.pollerValue_eq, run, runFuel, defaultFuel]
  simp -implicitDefEqProofs only [rs_eval, rs_base, rs_code, ↓PollerProof.grace_call nowNs inp (s := s) (h0 := h0)]

/-- the boundary is strict: exactly 5 s after the last good reply the poller is NOT within grace -/
example : (PollerState.mk 1000).withinGrace (1000 + 5000000000) = false ∧
    (PollerState.mk 1000).withinGrace (1000 + 4999999999) = true := by decide

/-- a failed send (`Err(_)`: the ShmWriter's end of the channel is gone) panics ("Broken channel to ShmWriter"),
    whatever the turn was -/
theorem iteration_send_fails (e : IterEnv) (s : PollerState) (coarse : TimeSpec) (reply : ReplyKind) (tReply tGrace : Int)
    (refid : Option Nat) (file : PhcFile) (x : Value) (nowNs : Int) (inp : Nat → Value) (log : List Value) (pos : Nat)
    (pre : List Stmt) (c : Expr) (body : List Stmt)
    (hfl : findLoop Code.fn_chrony_poller__run_clock_error_bound_poller.body = some (pre, c, body))
    (hother : e.other ≠ "ReplyBody::Tracking") (hsend : e.sendRes = .enumv "Err" [x])
    (hin : inputsAt inp pos ((pollTrace s coarse reply tReply tGrace (phcOf refid file)).map (pollEvInput e)))
    (K : Nat) (hK : 60 ≤ K) :
    evalWhile (K + 2) (ctxP nowNs inp) frP c body (topP nowNs inp pre e s refid log pos) = .panic :=
  (PollerProof.turn nowNs inp refid pre c body hfl e ⟨⟨coarse, reply, tReply, tGrace, file⟩, e⟩ rfl rfl hother s log pos
    hin K hK).2 x hsend

/-- a failed read of the monotonic clock: logged, chronyd is not asked, NOTHING is sent, the poller state is
    unchanged, the thread waits on its mailbox as in every turn -/
theorem iteration_clock_fails (e : IterEnv) (s : PollerState) (refid : Option Nat) (x : Value) (nowNs : Int)
    (inp : Nat → Value) (log : List Value) (pos : Nat) (pre : List Stmt) (c : Expr) (body : List Stmt)
    (hfl : findLoop Code.fn_chrony_poller__run_clock_error_bound_poller.body = some (pre, c, body))
    (hin : inputsAt inp pos [.enumv "Err" [x], e.recvRes]) (K : Nat) (hK : 60 ≤ K) :
    turnIs (ctxP nowNs inp) frP c body K
      (evalWhile (K + 2) (ctxP nowNs inp) frP c body (topP nowNs inp pre e s refid log pos))
      (if e.isAbort = true then
         .done (log ++ [evClockRead (clockId 6) (.enumv "Err" [x]), evWait (.duration e.sleepNs)]) (pos + 2)
       else .next (topP nowNs inp pre e s refid
         (log ++ [evClockRead (clockId 6) (.enumv "Err" [x]), evWait (.duration e.sleepNs)]) (pos + 2))) := by
  obtain ⟨M, rfl⟩ : ∃ M, K = M + 60 := ⟨K - 60, by omega⟩
  obtain ⟨poll, b1, wait, clk, arms, hb, hq⟩ := PollerProof.body_shape hfl
  have := (PollerProof.after_poll hfl hb e s refid nowNs inp log pos M).1 _ _ _ _
    (PollerProof.poll_clock_fails hfl hb hq e s refid nowNs inp log pos x hin.1 M) hin.2.1
  simpa [pollEvValue] using this

/-- the whole loop: see the header.  `e0` carries the sysfs path and the sleep time of the run -/
theorem loop_eq (nowNs : Int) (inp : Nat → Value) (refid : Option Nat) (e0 : IterEnv) (last : IterIn)
    (hlast : last.ok e0) (habort : last.env.isAbort = true) (xs : List IterIn)
    (hxs : ∀ x ∈ xs, x.ok e0 ∧ x.env.isAbort = false) (s : PollerState)
    (hin : inputsAt inp 0 (pollRunInputs refid s (xs ++ [last]))) (F : Nat) (hF : xs.length + 75 ≤ F) :
    runFuel F (ctxP nowNs inp) "chrony_poller::run_clock_error_bound_poller" .unit
      [contextValue "ChannelId::ClockErrorBoundPoller", pollerValue s, optPhcValue e0.path refid, .duration e0.sleepNs]
    = match pollRun refid s (xs ++ [last]) with
      | none => .panic
      | some (_, l) => .ok .unit .unit l :=
  PollerProof.loop_fn_run nowNs inp refid e0 s _ (xs.length + 62) _
    (fun pre c body hfl M hM => PollerProof.loop nowNs inp refid pre c body hfl e0 last hlast habort xs hxs s [] 0 hin M hM)
    F (by omega)

/-- a history that ends with a failed send (instead of a ThreadAbort) panics -/
theorem loop_send_fails (nowNs : Int) (inp : Nat → Value) (refid : Option Nat) (e0 : IterEnv) (bad : IterIn)
    (hb1 : bad.env.path = e0.path) (hb2 : bad.env.sleepNs = e0.sleepNs)
    (hb3 : bad.env.other ≠ "ReplyBody::Tracking") (v : Value) (hb4 : bad.env.sendRes = .enumv "Err" [v])
    (xs : List IterIn) (hxs : ∀ x ∈ xs, x.ok e0 ∧ x.env.isAbort = false) (s : PollerState)
    (hin : inputsAt inp 0 (pollRunInputs refid s (xs ++ [bad]))) (F : Nat) (hF : xs.length + 75 ≤ F) :
    runFuel F (ctxP nowNs inp) "chrony_poller::run_clock_error_bound_poller" .unit
      [contextValue "ChannelId::ClockErrorBoundPoller", pollerValue s, optPhcValue e0.path refid, .duration e0.sleepNs]
    = .panic :=
  PollerProof.loop_fn_run nowNs inp refid e0 s 0 (xs.length + 62) none
    (fun pre c body hfl M hM =>
      PollerProof.loop_fail nowNs inp refid pre c body hfl e0 bad hb1 hb2 hb3 v hb4 xs hxs s [] 0 hin M hM)
    F (by omega)

/-- `pollRun` panics exactly when the model's `Poller.runFrom` lists a `panic` message (both thread
    `PollIter.step` through the iterations) -/
theorem pollRun_panics_iff (refid : Option Nat) (s : PollerState) (xs : List IterIn) :
    pollRun refid s xs = none ↔ PollMsg.panic ∈ Poller.runFrom refid s (xs.map IterIn.it) :=
  pollRun_none_iff_runFrom_panics refid s xs

section
open scoped ClockBound.Rs.CallByValue
-- `run` is evaluated up to its call of the loop function, which has its equation `PollerProof.loop_fn_call`
attribute [-rs_eval] callDecl.eq_2

/-- the thread's entry point `chrony_poller::run(ctx, phc_info)`: `ClockErrorBoundPoller::default()` reads the
    `Instant` `tStart` (input 0; in the range where `checked_sub` succeeds), the sleep time is
    `Duration::from_millis(1000)`, then the loop from `Poller.init tStart` -/
theorem run_eq (nowNs : Int) (inp : Nat → Value) (refid : Option Nat) (e0 : IterEnv)
    (hsleep : e0.sleepNs = 1000000000) (last : IterIn)
    (hlast : last.ok e0) (habort : last.env.isAbort = true) (xs : List IterIn)
    (hxs : ∀ x ∈ xs, x.ok e0 ∧ x.env.isAbort = false) (tStart : Int) (ht : instantLo ≤ tStart - GRACE_NS)
    (h0 : inp 0 = instant tStart)
    (hin : inputsAt inp 1 (pollRunInputs refid (Poller.init tStart) (xs ++ [last]))) (F : Nat)
    (hF : xs.length + 85 ≤ F) :
    runFuel F (ctxP nowNs inp) "chrony_poller::run" .unit
      [contextValue "ChannelId::ClockErrorBoundPoller", optPhcValue e0.path refid]
    = match pollRun refid (Poller.init tStart) (xs ++ [last]) with
      | none => .panic
      | some (_, l) => .ok .unit .unit (evInstantNow (instant tStart) :: l) := by
  obtain ⟨J, rfl⟩ : ∃ J, F = J + 60 := ⟨F - 60, by omega⟩
  have hC := fun env N hN => PollerProof.loop_fn_call nowNs inp refid e0 (Poller.init tStart) env
    [evInstantNow (instant tStart)] 1 _ (xs.length + 62) _ (fun pre c body hfl M hM =>
      PollerProof.loop nowNs inp refid pre c body hfl e0 last hlast habort xs hxs (Poller.init tStart) _ 1 hin M hM) N hN
  have hd : Code.fns.lookup "chrony_poller::run" = some Code.fn_chrony_poller__run := by
    simp only [rs_eval, rs_base, rs_code]
  simp only [pollerArgs, PollerProof.pollerValue_eq, hsleep, instant] at hC
  simp only [rs_eval, rs_base] at ht
  simp only [PollerProof.ctxP_eq, runFuel, PollerProof.pctx_fns, hd]
  rw [callDecl.eq_2]
  simp -implicitDefEqProofs only [rs_eval, rs_base, rs_code, ↓PollerProof.default_call nowNs inp (h0 := h0), ht]
  rw [hC _ _ (by omega)]
  cases pollRun refid (Poller.init tStart) (xs ++ [last]) with
  | none => simp -implicitDefEqProofs only [rs_eval, rs_base, rs_code]
  | some p => simp -implicitDefEqProofs only [rs_eval, rs_base, rs_code]
end

/-- non-vacuity of `loop_eq`: a two-iteration history (silence with an unexpected message in the mailbox, then a
    Tracking reply and `ThreadAbort`) satisfies the side conditions, does not panic and consumes 5 + 5 inputs -/
example :
    let e1 : IterEnv := ⟨"/sys/x", 1000000000, "ReplyBody::Null", [], true, okUnit, true, "Message::ChronyNotResponding", []⟩
    let e2 : IterEnv := ⟨"/sys/x", 1000000000, "ReplyBody::Null", [], true, okUnit, true, "Message::ThreadAbort", []⟩
    let xs : List IterIn := [⟨⟨⟨5, 6⟩, .none, 0, 7000000000, .unreadable⟩, e1⟩]
    let last : IterIn := ⟨⟨⟨6, 6⟩, .tracking ⟨0, 1, 2, 3, 4, 5, 7⟩, 8000000000, 0, .unreadable⟩, e2⟩
    (pollRun none ⟨0⟩ (xs ++ [last])).isSome = true ∧ (pollRunInputs none ⟨0⟩ (xs ++ [last])).length = 10 ∧
    e1.isAbort = false ∧ e2.isAbort = true := by
  decide

/-- the loop is there: `findLoop` finds it -/
theorem loop_found : ∃ pre c body, findLoop Code.fn_chrony_poller__run_clock_error_bound_poller.body
    = some (pre, c, body) := by
  simp only [rs_eval, rs_base, rs_code]

/-- the clock reads and the query of an iteration, as the model's `ReadAction`s, start with `pollerReads` -/
theorem iteration_reads_order (e : IterEnv) (s : PollerState) (coarse : TimeSpec) (reply : ReplyKind) (tReply tGrace : Int)
    (phc : Option PhcCfg) :
    (((pollTrace s coarse reply tReply tGrace phc).map (pollEvValue e)).filterMap readActionOf).take 2 = pollerReads := by
  simp [pollTrace, pollEvValue, readActionOf, evClockRead, evQuery, clockId, pollerReads]

/-- ranges the Rust types force (none is needed above): `refid: u32`, the file's value is any integer
    (out of the `i64` range it does not parse: the model's `PhcFile.read` says panic) -/
def inRange (refid : Option Nat) : Bool :=
  match refid with
  | some r => decide (r < 4294967296)
  | none => true

example : inRange (some 1346912048) = true := by decide

/-- non-vacuity: an input stream that satisfies `inputsAt` for a Tracking reply with a matching PHC whose
    file cannot be read exists (7 inputs) -/
example : ∃ (e : IterEnv) (inp : Nat → Value),
    e.other ≠ "ReplyBody::Tracking" ∧ e.sendRes = okUnit ∧
    inputsAt inp 3 ((pollTrace ⟨100⟩ ⟨5, 6⟩ (.tracking ⟨0, 1, 2, 3, 4, 5, 7⟩) 200 300 (some ⟨7, .unreadable⟩)).map (pollEvInput e))
    ∧ (pollTrace ⟨100⟩ ⟨5, 6⟩ (.tracking ⟨0, 1, 2, 3, 4, 5, 7⟩) 200 300 (some ⟨7, .unreadable⟩)).length = 7 := by
  refine ⟨⟨"/sys/x", 1000000000, "ReplyBody::Null", [], true, okUnit, false, "RecvTimeoutError::Timeout", []⟩, ?_⟩
  refine ⟨fun i => (((pollTrace ⟨100⟩ ⟨5, 6⟩ (.tracking ⟨0, 1, 2, 3, 4, 5, 7⟩) 200 300 (some ⟨7, .unreadable⟩)).map
    (pollEvInput ⟨"/sys/x", 1000000000, "ReplyBody::Null", [], true, okUnit, false, "RecvTimeoutError::Timeout", []⟩))[i - 3]?).getD .unit, ?_⟩
  refine ⟨by decide, rfl, ?_, by decide⟩
  simp [pollTrace, inputsAt, PhcFile.read]

end ClockBound.CodeTiePoller

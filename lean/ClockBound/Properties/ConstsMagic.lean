/-
  Source tie by translation (part Magic): constants the hand-written model hard-codes, regenerated from
  /repo's working tree on every run by tools/translate_consts.py, agree with the model.
  Closed by evaluation; a changed constant in the source makes the theorem fail to build.
-/
import ClockBound.Generated.Consts
import ClockBound.Model.Driver
namespace ClockBound.ConstsAgree
open ClockBound ClockBound.Generated.Consts

/-- shm_header.rs / writer.rs: magic words, layout version, generation after the 16-bit wrap -/
theorem magic_words : magic0 = MAGIC0 ∧ magic1 = MAGIC1 := by decide

/-- the daemon, the Rust client and the C header name the same segment path -/
theorem one_segment_path : daemonPath = clientPath ∧ clientPath = cHeaderPath := ⟨rfl, rfl⟩

end ClockBound.ConstsAgree

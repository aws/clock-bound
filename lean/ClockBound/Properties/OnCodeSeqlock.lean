/-
  The seqlock properties C11, C18, C02, C03 stated ABOUT THE SOURCE: each theorem mentions only
    * the AST `Generated.Code` regenerated from clock-bound-shm/src/{writer,reader}.rs, run by the interpreter with the
      context of the `Shm` group (`CodeTieSeqlock.ctx`: dictionary `Rs/DictShm.lean`, raw load results), and
    * the oracle / headline statement of the property (`C11.Holds`, the invariant of `C11.history_invariant`, the bound
      `SL.stepBound` of C18, the theorems of `Properties/C02.lean` / `C03.lean`);
  the model (`SL.writerProg`, `SL.readerProg`, the machines) occurs only as an existential witness or — for C02/C03, whose
  statements are about interleaved executions the per-thread interpreter does not have — as the system the code is
  identified with thread by thread (see the note at `C02_C03_bridge`).
-/
import ClockBound.Proofs.OnCodeSeqlock
import ClockBound.Properties.C02
import ClockBound.Properties.C03
namespace ClockBound.OnCode
open ClockBound ClockBound.Rs ClockBound.Generated ClockBound.Rs.DictShm ClockBound.Rs.EmbedShm

/-! ## C11: the generation protocol of `ShmWriter::write` -/

/-- **C11 on the source**: for EVERY value `g` the generation load returns (every `u16`: `inp 0 % 65536`), every record
    and every environment, the interpreted `ShmWriter::write` makes exactly two stores to the generation field,
    `inflight` and then `final`, and they satisfy the C11 oracle: `inflight` is odd (`g + 1` if `g` is even, `g` itself
    if an interrupted update left it odd), `final` is even, non-zero, different from `g`, the successor of `inflight`
    except that 65535 is followed by 2. -/
theorem C11_write_stores (inp : Nat → Nat) (cells : List Nat) (segsize : Nat) (nowNs : Int) (sizes : List (String × Nat)) :
    ∃ inflight final,
      genStores (eventsOf (run (CodeTieSeqlock.ctx nowNs sizes inp) "ShmWrite for ShmWriter::write" (writerValue segsize)
        [wordsValue cells])) = [inflight, final] ∧
      C11.Holds (inp 0 % 65536) inflight final = true := by
  refine ⟨genStart (inp 0 % 65536), genFinish (genStart (inp 0 % 65536)), ?_, C11.model_holds _ (Nat.mod_lt _ (by decide))⟩
  rw [CodeTieSeqlock.write_eq]
  exact genStores_writerProg _ _ _

/-- what the generation field holds after one interpreted `write` that found `g` there: the second store if the call
    completed, the first if the writer died between the two -/
def afterWrite (g : Nat) (completed : Bool) : Nat :=
  let stores := genStores (eventsOf (run (CodeTieSeqlock.ctx 0 [] (fun _ => g)) "ShmWrite for ShmWriter::write"
    (writerValue 72) [wordsValue []]))
  if completed then stores.getLastD g else stores.headD g

theorem afterWrite_eq (g : Nat) (hg : g < 65536) (c : Bool) :
    afterWrite g c = if c then genFinish (genStart g) else genStart g := by
  unfold afterWrite
  rw [CodeTieSeqlock.write_eq]
  simp only [eventsOf, genStores_writerProg, Nat.mod_eq_of_lt hg]
  cases c <;> rfl

/-- the generation field after a history of calls of the interpreted `write` (each completed or interrupted), from `g0` -/
def afterHistory (g0 : Nat) (calls : List Bool) : Nat := calls.foldl afterWrite g0

/-- a history of interpreted calls leaves the generation that the protocol machine `GState` has after the events of
    these calls: every intermediate generation is a `u16`, so each call is its closed form (`afterWrite_eq`) -/
theorem history_run (calls : List Bool) : ∀ s : GState, s.mid = false → s.g < 65536 →
    ((callEvents calls).foldl GState.step s).g = calls.foldl afterWrite s.g := by
  induction calls with
  | nil => intro s _ _; rfl
  | cons c rest ih =>
    intro s hm hg
    rw [List.foldl_cons, afterWrite_eq s.g hg c]
    cases c
    · simpa [callEvents, GState.step, hm] using
        ih ((s.step .start).step .crash) (by simp [GState.step, hm]) (by simpa [GState.step, hm] using (C11.start_odd s.g hg).2)
    · simpa [callEvents, GState.step, hm] using
        ih ((s.step .start).step .finish) (by simp [GState.step, hm])
          (by simpa [GState.step, hm] using (C11.finish_props s.g hg).2.2.2)

/-- **C11 over histories, on the source**: after ANY history of completed and interrupted calls of the interpreted
    `write` from any `u16` start value, the generation field is what SOME run of the protocol machine `GState` leaves
    (the witness), and therefore (`C11.history_invariant`) it is a `u16`, is never 0 once a store was made, and is even
    and non-zero whenever the last update completed. -/
theorem C11_history (g0 : Nat) (h0 : g0 < 65536) (calls : List Bool) :
    ∃ evs, afterHistory g0 calls = (GState.run g0 evs).g ∧
      (GState.run g0 evs).g < 65536 ∧
      ((GState.run g0 evs).stores > 0 → afterHistory g0 calls ≠ 0) ∧
      ((GState.run g0 evs).mid = false → (GState.run g0 evs).stale = false → (GState.run g0 evs).finishes > 0 →
        afterHistory g0 calls % 2 = 0 ∧ afterHistory g0 calls ≠ 0) := by
  have key : afterHistory g0 calls = (GState.run g0 (callEvents calls)).g := (history_run calls { g := g0 } rfl h0).symm
  have hinv := C11.history_invariant g0 h0 (callEvents calls)
  exact ⟨callEvents calls, key, hinv.1, key ▸ hinv.2.2.2.2, key ▸ hinv.2.2.2.1⟩

/-- … in particular: right after a completed call the generation is even, non-zero and has changed -/
theorem C11_after_completed (g : Nat) (hg : g < 65536) :
    afterWrite g true % 2 = 0 ∧ afterWrite g true ≠ 0 ∧ afterWrite g true ≠ g ∧ afterWrite g true < 65536 := by
  rw [afterWrite_eq g hg]; exact C11.finish_props g hg

/-- non-vacuity: an interrupted update at 65534 is repaired by the next call, which rolls over to 2 (not 0) -/
example : afterHistory 65534 [false, true] = 2 :=
  (history_run [false, true] { g := 65534 } rfl (by decide)).symm.trans (by decide)

/-! ## C18: `snapshot()` never blocks or spins for ever -/

/-- **C18 on the source**: for ALL streams of load results (whatever the daemon does or has stopped doing), every cache
    and every fuel ≥ RETRIES + 200, the interpreted `ShmReader::snapshot` RETURNS — it does not panic, does not leave the
    interpreted fragment, does not run out of fuel — after at most `SL.stepBound = 2 + RETRIES·(N+2)` shared accesses
    (loads and fences: the length of its event list), and what it returns is `Ok(&snapshot)` or the documented error
    `Err(ShmError::SegmentNotInitialized)`.  (Witnesses: the result and final state of the reader machine, which
    `C18.bounded` is about.) -/
theorem C18_snapshot_bounded (inp : Nat → Nat) (cacheGen : Nat) (cache : List Nat) (nowNs : Int)
    (sizes : List (String × Nat)) (fuel : Nat) (hfuel : SL.RETRIES + 200 ≤ fuel) :
    ∃ res self' evs,
      runFuel fuel (CodeTieSeqlock.ctx nowNs sizes inp) "ShmReader::snapshot" (readerValue cacheGen cache) []
        = .ok res self' evs ∧
      evs.length ≤ SL.stepBound ∧
      ((∃ cells, res = .enumv "Ok" [wordsValue cells]) ∨ res = .enumv "Err" [.enumv "ShmError::SegmentNotInitialized" []]) := by
  obtain ⟨res, _, hrun⟩ := CodeTieSeqlock.snapshot_machine inp { cacheGen := cacheGen, cache := cache } nowNs sizes fuel hfuel
    SL.stepBound (Nat.le_refl _)
  refine ⟨_, _, _, hrun, ?_, ?_⟩
  · rw [List.length_map]
    have := SeqlockProg.Proofs.readerRunG_length CodeTieSeqlock.ann (typedInp inp) SL.stepBound
      ({ cacheGen := cacheGen, cache := cache } : SL.Reader).call 0 []
    simpa using this
  · cases res with
    | ok cells => exact Or.inl ⟨cells, rfl⟩
    | errNotInit => exact Or.inr rfl

/-- **C18, second clause, on the source**: while the segment is being re-initialised (version 0) the call answers from
    its previous snapshot after ONE load -/
theorem C18_version_zero (inp : Nat → Nat) (h0 : inp 0 % 65536 = 0) (cacheGen : Nat) (cache : List Nat) (nowNs : Int)
    (sizes : List (String × Nat)) (fuel : Nat) (hfuel : SL.RETRIES + 200 ≤ fuel) :
    ∃ evs, runFuel fuel (CodeTieSeqlock.ctx nowNs sizes inp) "ShmReader::snapshot" (readerValue cacheGen cache) []
        = .ok (.enumv "Ok" [wordsValue cache]) (readerValue cacheGen cache) evs ∧ evs.length = 1 := by
  rw [CodeTieSeqlock.snapshot_eq inp cacheGen cache nowNs sizes fuel hfuel]
  have hv : typedInp inp 0 = 0 := by simpa [typedInp, loadCard] using h0
  simp [readerOutcome, SL.readerProg, hv, resultValue]

/-- … and while an update is in flight (odd generation) or the generation is 0, after TWO loads -/
theorem C18_in_flight (inp : Nat → Nat) (hv : inp 0 % 65536 ≠ 0) (hg : inp 1 % 65536 % 2 = 1 ∨ inp 1 % 65536 = 0)
    (cacheGen : Nat) (cache : List Nat) (nowNs : Int) (sizes : List (String × Nat)) (fuel : Nat)
    (hfuel : SL.RETRIES + 200 ≤ fuel) :
    ∃ evs, runFuel fuel (CodeTieSeqlock.ctx nowNs sizes inp) "ShmReader::snapshot" (readerValue cacheGen cache) []
        = .ok (.enumv "Ok" [wordsValue cache]) (readerValue cacheGen cache) evs ∧ evs.length = 2 := by
  rw [CodeTieSeqlock.snapshot_eq inp cacheGen cache nowNs sizes fuel hfuel]
  have hv' : typedInp inp 0 ≠ 0 := by simpa [typedInp, loadCard] using hv
  have hg' : typedInp inp 1 = 0 ∨ typedInp inp 1 = cacheGen ∨ typedInp inp 1 % 2 = 1 := by
    have : typedInp inp 1 = inp 1 % 65536 := by simp [typedInp, loadCard]
    rw [this]; rcases hg with h | h
    · exact Or.inr (Or.inr h)
    · exact Or.inl h
  simp [readerOutcome, SL.readerProg, hv', hg', resultValue]

example : SL.stepBound = 9000002 := by decide
example : (fun k : Nat => if k = 0 then 1 else 7) 0 % 65536 ≠ 0 ∧ (fun k : Nat => if k = 0 then 1 else 7) 1 % 65536 % 2 = 1 := by decide

/-! ## C02 / C03: no mixture, no going back

  The statements of `Properties/C02.lean` and `C03.lean` are about `SL.Reachable a (Sys.init ..) s`: every interleaving
  of the individual accesses of one writer machine (`SL.wStep a`) and one reader machine (`SL.rStep a`) over a
  release/acquire memory, with crashes and restarts, for an annotation `a` with `a.adequate = true`.  The interpreter
  runs ONE function of ONE thread against a stream of load results; it has no memory model and no interleaving.  The
  bridge is therefore thread by thread, and it is complete on each side:
    * the annotation is the one READ OFF THE SOURCE (`CodeTieSeqlock.ann`, by probe runs) and it is adequate;
    * the interpreted `snapshot()` IS the reader machine: for every stream of answers the memory may give, result, new cache
      and accesses (location, ordering, value) are those of `SL.readerRunG ann` — and `SL.rStepG` is `SL.rStep` with the
      memory's answer passed in (`SeqlockProg.rStep_eq_G`), whose control never looks at anything but the value
      (`SeqlockProg.rStepG_control`);
    * the interpreted `write()` IS the writer machine: its accesses are `SL.writerProg ann g cells`, and the `3 + N (+1)`
      steps of `SL.wStep ann` append exactly the stores of `SL.writerProg ann (latest log .gen) rec`
      (`SeqlockProg.writerRun_eq_prog`).
  What is NOT derived from the source: that the hardware/compiler give these accesses the release/acquire semantics of
  `SL.load`/`SL.storeMsg` (the memory model is an assumption of C02), and the scheduler (`SL.Step`). -/

/-- the per-thread identification of the source with the machines of C02/C03, instantiated with the source's annotation -/
theorem C02_C03_bridge :
    CodeTieSeqlock.ann.adequate = true ∧
    (∀ (inp : Nat → Nat) (r : SL.Reader) (nowNs : Int) (sizes : List (String × Nat)) (fuel : Nat),
      SL.RETRIES + 200 ≤ fuel → ∀ mfuel, SL.stepBound ≤ mfuel →
      let out := SL.readerRunG CodeTieSeqlock.ann (typedInp inp) mfuel r.call 0 []
      ∃ res, out.2.1 = some res ∧
        runFuel fuel (CodeTieSeqlock.ctx nowNs sizes inp) "ShmReader::snapshot" (readerValue r.cacheGen r.cache) []
        = .ok (resultValue res) (readerValue out.1.cacheGen out.1.cache) (out.2.2.map accValue)) ∧
    (∀ (inp : Nat → Nat) (log : SL.Log) (w : SL.Writer) (rec : List Nat) (segsize : Nat) (nowNs : Int)
        (sizes : List (String × Nat)), rec.length = SL.N → inp 0 % 65536 = SL.latest log .gen →
      let out := SL.writerRun CodeTieSeqlock.ann (3 + SL.N + (if CodeTieSeqlock.ann.wFence.isSome then 1 else 0)) log
        { w with pc := .loadGen rec }
      out.2.pc = .idle ∧ ∃ msgs accs, out.1 = log ++ msgs ∧
        run (CodeTieSeqlock.ctx nowNs sizes inp) "ShmWrite for ShmWriter::write" (writerValue segsize) [wordsValue rec]
          = .ok .unit (writerValue segsize) (accs.map accValue) ∧
        msgs.map (fun m => (m.loc, m.val)) = SL.storesOf accs) := by
  refine ⟨CodeTieSeqlock.ann_adequate, CodeTieSeqlock.snapshot_machine, ?_⟩
  intro inp log w rec segsize nowNs sizes hl hg
  obtain ⟨hidle, msgs, hlog, hst⟩ := SeqlockProg.writerRun_eq_prog CodeTieSeqlock.ann log w rec hl
  refine ⟨hidle, msgs, _, hlog, ?_, hst⟩
  rw [CodeTieSeqlock.write_eq, hg]

/-- **C02 for the system whose two threads are the interpreted source** (annotation of the source, proved adequate):
    in every reachable state of the interleaved system with fewer than 32767 completed updates, every record a
    `snapshot` returned is the empty initial record, the pre-existing record, or a record some `write` was given —
    never a mixture. -/
theorem C02_no_mixture (ver gen : Nat) (cells0 : List Nat) (hc : cells0.length = SL.N) (hg : gen < 65536)
    (s : SL.Sys) (hr : SL.Reachable CodeTieSeqlock.ann (SL.Sys.init ver gen cells0) s)
    (hnowrap : SL.completedUpdates s.log < 32767) :
    ∀ c ∈ s.returned, C02.Good cells0 s c :=
  C02.no_mixture CodeTieSeqlock.ann CodeTieSeqlock.ann_adequate ver gen cells0 hc hg s hr hnowrap

/-- **C03(i)**, same system: the publication behind the reader's cache never moves backwards -/
theorem C03_accepted_monotone (s t : SL.Sys) (hst : SL.Step CodeTieSeqlock.ann s t)
    (hopen : t.r ≠ ({} : SL.Reader) ∨ s.r = ({} : SL.Reader))
    (ver gen : Nat) (cells0 : List Nat) (hc : cells0.length = SL.N) (hg : gen < 65536)
    (hr : SL.Reachable CodeTieSeqlock.ann (SL.Sys.init ver gen cells0) s)
    (hnowrap : SL.completedUpdates t.log < 32767) :
    s.r.acceptedIdx ≤ t.r.acceptedIdx :=
  C03.accepted_monotone CodeTieSeqlock.ann CodeTieSeqlock.ann_adequate s t hst hopen ver gen cells0 hc hg hr hnowrap

/-- **C03**, same system: the cached record is the record as of the accepted publication -/
theorem C03_cache_is_publication (ver gen : Nat) (cells0 : List Nat) (hc : cells0.length = SL.N) (hg : gen < 65536)
    (s : SL.Sys) (hr : SL.Reachable CodeTieSeqlock.ann (SL.Sys.init ver gen cells0) s)
    (hnowrap : SL.completedUpdates s.log < 32767) :
    (s.r.cacheGen = 0 ∧ s.r.cache = SL.zerosN) ∨
    (s.r.cache = SL.pubCells s.log s.r.acceptedIdx ∧
      ∃ m, s.log[s.r.acceptedIdx]? = some m ∧ m.loc = .gen ∧ m.val = s.r.cacheGen) :=
  C03.cache_is_accepted_publication CodeTieSeqlock.ann CodeTieSeqlock.ann_adequate ver gen cells0 hc hg s hr hnowrap

/-- non-vacuity of the reachability hypotheses: the initial state is reachable -/
example : SL.Reachable CodeTieSeqlock.ann (SL.Sys.init 1 2 (List.replicate SL.N 0)) (SL.Sys.init 1 2 (List.replicate SL.N 0)) :=
  .refl

end ClockBound.OnCode

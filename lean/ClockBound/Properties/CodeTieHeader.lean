/-
  Translation tie, group `Shm`, part 2: the header checks of clock-bound-shm —
  `ShmHeader::is_valid` (with `matches_magic`, `has_valid_version`, `is_initialized`, `is_well_formed` inlined),
  `ShmHeader::read`, `ShmReader::new` (with `FdGuard::new`, `MmapGuard::new`), `ShmWriter::segment_size`.

  The AST regenerated from shm_header.rs / reader.rs / writer.rs, run with the dictionary `Rs/DictShm.lean`
  (parts B and C: a private header copy, the system calls of the open path), decides exactly as
  `readHeader` / `readerOpenLim` of `Model/Header.lean` (through the closed forms of `Model/HeaderProg.lean`,
  `Properties/HeaderProg.lean`): same order of checks (magic → version → generation → size), same error
  kinds, same origins of the system-call errors.  The sizes 16 and 56 (`EmbedShm.sizes`) are inputs: they are
  tied to the `#[repr(C)]` layout by `Properties/C17.lean` (`rust_header_layout`, `rust_record_layout`).
-/
import ClockBound.Proofs.RsReaderNew
import ClockBound.Properties.HeaderProg
namespace ClockBound.CodeTieHeader
open ClockBound ClockBound.Rs ClockBound.Generated ClockBound.Rs.DictShm ClockBound.Rs.EmbedShm

/-- the interpreter's context: generated tables, the dictionary, the two struct sizes, an input stream -/
abbrev ctx (inp : Nat → Value) : Ctx := Code.ctxWith 0 DictShm.ext EmbedShm.sizes inp

/-- the value ranges the Rust types force on the header fields (`u32`, `u32`, `u32`, `u16`, `u16`) -/
example : Header.inRange ⟨MAGIC0, MAGIC1, 72, 1, 2⟩ := by decide

/-- `ShmHeader::is_valid(&self)` on a header with the fields `h`: the four checks of `checkHeader`, in its
    order, with its error kinds; `self` is unchanged, nothing is logged, no input is consumed -/
theorem is_valid_eq (h : Header) (hh : h.inRange) (inp : Nat → Value) :
    run (ctx inp) "ShmHeader::is_valid" (headerValue h) [] = .ok (validValue (checkHeader h)) (headerValue h) [] := by
  rw [run_of_call (by simp only [rs_eval, rs_base, rs_code]) (HeaderProof.is_valid_call h hh inp 180 _)]
  cases checkHeader h <;> rfl

/-- … i.e. the decision of `readHeader` on (at least) the 16 bytes that encode the header -/
theorem is_valid_eq_bytes (bs : Bytes) (h16 : HEADER_SIZE ≤ bs.length) (hh : (parseHeader bs).inRange) (inp : Nat → Value) :
    run (ctx inp) "ShmHeader::is_valid" (headerValue (parseHeader bs)) []
    = .ok (validValue (readHeader bs)) (headerValue (parseHeader bs)) [] := by
  rw [HeaderProg.readHeader_full bs h16]
  exact is_valid_eq _ hh inp

/-- `ShmHeader::read(fd)`: `read(2)` returns `ret` (first input); negative ⇒ the system-call error with
    errno (second input) and origin "read SHM segment"; fewer than 16 bytes ⇒ `SegmentNotInitialized`; else
    the buffer holds the header `h` (second input) and the result is `is_valid`'s, `Ok(header)` if valid -/
theorem read_eq (ret : Int) (hret : IntTy.isize.lo ≤ ret ∧ ret ≤ IntTy.isize.hi) (errno : Nat) (he : errno ≤ 2147483647)
    (h : Header) (hh : h.inRange) (fd : Nat) (inp : Nat → Value)
    (h0 : inp 0 = .int .infer ret) (h1 : inp 1 = if ret < 0 then .int .infer errno else headerValue h) :
    ∃ log, run (ctx inp) "ShmHeader::read" .unit [.int .i32 fd] = .ok (readValue (readProg ret errno h)) .unit log := by
  have hin : Answers inp 0 (HeaderProof.readAsked ret errno h) := by
    unfold HeaderProof.readAsked
    split_ifs <;> simp_all [Answers]
  rw [run_of_call (by simp only [rs_eval, rs_base, rs_code]) (HeaderProof.read_call ret hret errno he h hh fd inp 160 _ hin),
    HeaderProof.readValue_readProg]
  split_ifs <;> exact ⟨_, rfl⟩

/-- … on a regular file with content `bs` it is `readHeader bs` -/
theorem read_eq_file (bs : Bytes) (hh : (parseHeader bs).inRange) (fd : Nat) (inp : Nat → Value)
    (h0 : inp 0 = .int .infer (readRet bs)) (h1 : inp 1 = headerValue (parseHeader bs)) :
    ∃ log, run (ctx inp) "ShmHeader::read" .unit [.int .i32 fd] = .ok (readValue (readHeader bs)) .unit log := by
  rw [HeaderProg.readHeader_eq_prog]
  exact read_eq (readRet bs) (HeaderProof.readRet_range bs) 0 (by omega) _ hh fd inp h0
    (by rw [if_neg (Proofs.readRet_nonneg bs)]; exact h1)

/-- the header of a file is in range (needed only because the statement quantifies over ALL byte lists,
    also those with "bytes" ≥ 256) -/
def FileState.hdrInRange : FileState → Prop
  | .file bs => (parseHeader bs).inRange
  | _ => True
instance (st : FileState) : Decidable (FileState.hdrInRange st) := by
  cases st <;> unfold FileState.hdrInRange <;> infer_instance
example : FileState.hdrInRange (.file (encodeHeader ⟨MAGIC0, MAGIC1, 72, 1, 2⟩ ++ List.replicate 56 0)) := by decide

/-- `ShmReader::new(path)`, for every state of the path and every mapping limit, with the system calls
    answering as `EmbedShm.openAnswers` says: the result is `readerOpenLim lim st` — the error (kind, errno,
    origin) or `Ok(ShmReader { .. })` with the pointers into the mapping, cache generation 0 and the default
    record.  In particular after a valid header `segsize < 16 + 56` ⇒ `SegmentMalformed`, checked AFTER the
    mapping, as in the source. -/
theorem reader_new_eq (lim : Option Nat) (st : FileState) (hst : FileState.hdrInRange st) (fd : Nat) (hfd : fd ≤ 2147483647) :
    (run (ctx (streamOf (openAnswers lim fd st))) "ShmReader::new" .unit [cstrValue]).noLog
    = .ok (openValue (readerOpenLim lim st)) .unit [] := by
  obtain ⟨evs, used, -, ⟨t, ht⟩, -, h⟩ := HeaderProof.reader_new_on lim st (by rintro bs rfl; exact hst) fd hfd
  rw [run_of_call (by simp only [rs_eval, rs_base, rs_code])
    (h _ 120 _ ((answers_append _ 0 used t).mp (by rw [ht]; exact answers_streamOf _)).1)]
  rfl

/-- `ShmWriter::segment_size()` = 72 (16 + 56, already a multiple of 8) -/
theorem segment_size_eq (inp : Nat → Value) :
    run (ctx inp) "ShmWriter::segment_size" .unit [] = .ok (.int .usize SEGMENT_SIZE) .unit [] := by
  rw [run_of_call (by simp only [rs_eval, rs_base, rs_code]) (HeaderProof.segment_size_call inp 140 _)]
  rfl

/-- non-vacuity: the decisions differ on these states -/
example : readerOpenLim none .missing = .error (.sys ENOENT .open_) ∧
    readerOpenLim none .directory = .error (.sys EISDIR .read) ∧
    readerOpenLim none (.file (encodeHeader ⟨MAGIC0, MAGIC1, 71, 1, 2⟩ ++ List.replicate 56 0)) = .error .malformed ∧
    readerOpenLim (some 64) (.file (encodeHeader ⟨MAGIC0, MAGIC1, 72, 1, 2⟩ ++ List.replicate 56 0)) = .error (.sys ENOMEM .mmap) ∧
    (readerOpenLim none (.file (encodeHeader ⟨MAGIC0, MAGIC1, 72, 1, 2⟩ ++ List.replicate 56 0))).isOk = true := by
  refine ⟨?_, ?_, ?_, ?_, ?_⟩ <;> rfl

/-- without the dictionary `is_valid` is stuck at the first header load -/
example : (run (Code.ctx 0) "ShmHeader::is_valid" (headerValue ⟨MAGIC0, MAGIC1, 72, 1, 2⟩) []).isStuck = true := by
  decide +kernel

end ClockBound.CodeTieHeader

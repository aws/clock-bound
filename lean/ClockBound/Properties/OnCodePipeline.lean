/-
  The daemon's pipeline poller thread → channel → writer thread stated ABOUT THE SOURCE: the regenerated
  `chrony_poller::run` (clock-bound-d/src/chrony_poller.rs) and `shm_writer::process_messages`
  (clock-bound-d/src/shm_writer.rs), each run by the interpreter on its own input stream, connected by ONE explicit
  hypothesis on the channel, and the oracles of C13 (what the poller reports for a history of answers, silences and
  PHC failures), C08 and C09 (what the writer publishes for a history of poll outcomes).

  THE CHANNEL HYPOTHESIS (`hchan`): the mailbox of the writer thread delivers exactly the messages the poller
  thread sent to `ChannelId::ShmWriter` — all of them, each once, in the order sent, nothing else in between
  (std::sync::mpsc: FIFO, no loss, no duplication; no other thread sends to that channel) — and after them
  `Message::ThreadAbort` (what the main thread sends at shutdown).  Formally: the writer's input stream starts with
  `Ok(m)` for the messages `m` of the `send` events of the poller's log (`sentOf`), then `Ok(ThreadAbort)`.

  Other hypotheses: the poller's history ends with `ThreadAbort` and every send succeeds (as in `C13_run`); no `i64`
  overflow in the writer (`noOverflow`: `as_of.tv_sec + 1000` and `bound + phc` for the PHC term the poller can
  attach — C08's `Msg.ok`); all messages are handled by the writer at one CLOCK_REALTIME reading `nowNs` (the
  interpreter's `Ctx.nowNs` is a constant of a run: see the note on C01 below).

  NOT composed: C01 (`C01.containment`, `Model/World.lean`).  Its daemon `DaemonState.run` handles the message of poll
  `i` at realtime `(w.Rc tp_i).floor`, a DIFFERENT reading for every poll, while the tie theorem for the whole loop
  (`CodeTieDispatch.process_messages_eq`) has one `nowNs` per run (the core interpreter has `SystemTime::elapsed`
  read a constant of the context).  `CodeTieDispatch.iteration_eq` is per message with its own `nowNs`, so the gap is
  the loop induction over a context that changes between iterations, not a property of the source.
-/
import ClockBound.Proofs.OnCodePipeline
import ClockBound.Properties.OnCodePoller
namespace ClockBound.OnCode
open ClockBound ClockBound.Rs ClockBound.Generated ClockBound.Rs.DictPoller

/-- **C13 + C08 + C09 on the source, poller → channel → writer.**  For every history of poller iterations ending
    with `ThreadAbort` (answers, silences, PHC failures, any timing), the poller thread of the current source either
    panics (an unparsable sysfs value) or runs to completion, and then: the messages it sent are the embedding of a
    list `msgs` that satisfies the C13 oracle for that history; the writer thread of the current source, started on a
    fresh `ShmUpdater::new(_, drift)` and receiving exactly these messages (`hchan`), does not panic, returns `()`,
    and the records it hands to `ShmWrite::write`, in order, satisfy the C08 oracle (one record per message; as-of and
    bound of the latest synchronised report, void-after = as-of + 1000 s, the configured drift, status per the FSM)
    and the C09 oracle (Unknown until a first synchronised report) for the poll outcomes these messages mean
    (`abstractMsg ∘ PollMsg.toWriter`: a report with its bound, class and as-of, or a silence within / beyond grace) -/
theorem C13_C08_C09_pipeline
    (nowP : Int) (inpP : Nat → Value) (refid : Option Nat) (e0 : IterEnv)
    (hsleep : e0.sleepNs = 1000000000) (last : IterIn) (hlast : last.ok e0) (habort : last.env.isAbort = true)
    (xs : List IterIn) (hxs : ∀ x ∈ xs, x.ok e0 ∧ x.env.isAbort = false) (tStart : Int)
    (ht : instantLo ≤ tStart - GRACE_NS) (h0 : inpP 0 = instant tStart)
    (hin : inputsAt inpP 1 (pollRunInputs refid (Poller.init tStart) (xs ++ [last]))) (F : Nat)
    (hF : xs.length + 85 ≤ F)
    (hnov : ∀ x ∈ xs ++ [last], noOverflow x)
    (drift : Nat) (nowNs : Int) (inpW : Nat → Value) (F2 : Nat) (hF2 : xs.length + 111 ≤ F2)
    (hchan : ∀ logP, runFuel F (CodeTiePoller.ctxP nowP inpP) "chrony_poller::run" .unit
        [contextValue "ChannelId::ClockErrorBoundPoller", optPhcValue e0.path refid] = .ok .unit .unit logP →
      inputsAt inpW 0 ((sentOf logP).map okOf ++ [recvAbort])) :
    runFuel F (CodeTiePoller.ctxP nowP inpP) "chrony_poller::run" .unit
      [contextValue "ChannelId::ClockErrorBoundPoller", optPhcValue e0.path refid] = .panic ∨
    ∃ (logP logW : List Value) (msgs : List PollMsg) (recs : List Record),
      runFuel F (CodeTiePoller.ctxP nowP inpP) "chrony_poller::run" .unit
        [contextValue "ChannelId::ClockErrorBoundPoller", optPhcValue e0.path refid] = .ok .unit .unit logP ∧
      sentOf logP = msgs.map pollMsgValue ∧
      C13.Holds tStart refid ((xs ++ [last]).map IterIn.it) msgs = true ∧
      runFuel F2 (CodeTieDispatch.ctxP nowNs inpW) "shm_writer::process_messages" .unit
        [contextValue "ChannelId::ShmWriter", updaterValue (Updater.new drift)] = .ok .unit .unit logW ∧
      recordsOf logW = recs.map recordValue ∧ recs.length = xs.length + 1 ∧
      C08.Holds drift ((msgs.filterMap (PollMsg.toWriter nowNs)).map abstractMsg) recs = true ∧
      C09.Holds ((msgs.filterMap (PollMsg.toWriter nowNs)).map abstractMsg) recs = true := by
  rcases run_cases tStart refid _ _
    (CodeTiePoller.run_eq nowP inpP refid e0 hsleep last hlast habort xs hxs tStart ht h0 hin F hF)
    with ⟨hp, -⟩ | ⟨logP, hrun, hsent, hnp⟩
  · exact Or.inl hp
  · have hlen : (Poller.run tStart refid ((xs ++ [last]).map IterIn.it)).length = xs.length + 1 :=
      (Poller.runFrom_length_of_no_panic refid _ _ hnp).trans (by simp)
    generalize hmsgs : Poller.run tStart refid ((xs ++ [last]).map IterIn.it) = msgs at hsent hnp hlen
    -- the writer's mailbox: the messages sent, as `WMsg`s
    have hw : (msgs.map wmsgOf).filterMap (WMsg.toMsg nowNs) = msgs.filterMap (PollMsg.toWriter nowNs) := by
      simp only [List.filterMap_map, Function.comp_def, wmsgOf_toMsg]
    have hok : ∀ m ∈ (msgs.map wmsgOf).filterMap (WMsg.toMsg nowNs), m.ok = true := by
      rw [hw, ← hmsgs]
      exact run_msgs_ok nowNs refid (xs ++ [last]) (Poller.init tStart) hnov
    have hinW : inputsAt inpW 0 ((msgs.map wmsgOf).map WMsg.recvd ++ [recvAbort]) := by
      have : (msgs.map wmsgOf).map WMsg.recvd = (sentOf logP).map okOf := by
        rw [hsent, List.map_map, List.map_map]
        exact List.map_congr_left fun m hm => wmsgOf_recvd m fun e => hnp (e ▸ hm)
      rw [this]
      exact hchan logP hrun
    obtain ⟨logW, recs, hrunW, hrecs, h08, h09⟩ :=
      C08_C09_process_messages drift nowNs inpW (msgs.map wmsgOf) (by simp [wmsgOf_wf]) hok hinW F2
        (by rw [List.length_map, hlen]; omega)
    rw [hw] at h08 h09
    refine Or.inr ⟨logP, logW, msgs, recs, hrun, hsent, hmsgs ▸ C13.model_holds _ _ _, hrunW, hrecs, ?_, h08, h09⟩
    -- one record per message: the first clause of the C08 oracle
    have hl := h08
    simp only [C08.Holds, Bool.and_eq_true, beq_iff_eq] at hl
    rw [hl.1, List.length_map, ← hlen, List.filterMap_length_eq_length]
    intro m hm
    cases m <;> first | rfl | exact absurd hm hnp

/-! ### non-vacuity -/

private def trk : Tracking :=
  { leap := 0, refNs := 0, offW := 0, dispW := 0, delayW := 0, intervalW := 0, refid := 0 }

/-- the hypotheses on the history are satisfiable: a silence, then a Tracking reply (no PHC), then `ThreadAbort`:
    no overflow, the model's messages are `[ChronyNotResponding, data]`, which the writer turns into two records -/
example :
    let e1 : IterEnv := ⟨"/sys/x", 1000000000, "ReplyBody::Null", [], true, okUnit, false, "RecvTimeoutError::Timeout", []⟩
    let e2 : IterEnv := ⟨"/sys/x", 1000000000, "ReplyBody::Null", [], true, okUnit, true, "Message::ThreadAbort", []⟩
    let x1 : IterIn := ⟨⟨⟨5, 6⟩, .none, 0, 7000000000, .unreadable⟩, e1⟩
    let x2 : IterIn := ⟨⟨⟨6, 6⟩, .tracking trk, 8000000000, 0, .unreadable⟩, e2⟩
    noOverflow x1 ∧ noOverflow x2 ∧
    Poller.run 6000000000 none [x1.it, x2.it] = [.nr, .data trk 0 ⟨6, 6⟩] ∧
    (Updater.run (Updater.new 1000) ([PollMsg.nr, .data trk 0 ⟨6, 6⟩].filterMap (PollMsg.toWriter 5))).length = 2 := by
  refine ⟨?_, ?_, by decide, by decide +kernel⟩
  · intro t ht; cases ht
  · intro t ht
    have : t = trk := by injection ht with h; exact h.symm
    subst this
    refine ⟨by decide, ?_⟩
    rintro v (rfl | hv)
    · decide +kernel
    · cases hv

end ClockBound.OnCode

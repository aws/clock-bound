/-
  C14 (at the level of the two client APIs) and C17 (the C library behaves as the Rust client; the enums as
  published) stated ABOUT THE SOURCE — see `OnCodeClient.lean` for the reading: each theorem mentions only
    * the AST `Generated.Code` regenerated from the working tree, run by the interpreter — the client functions
      `ClockBoundClient::now` / `clockbound_now` / the `From` impls in the context `ctxE` of the group `Errors`
      (`Proofs/RsErrors.lean`, dictionary `Rs/DictErrors.lean`), `ClockErrorBound::now` in the context `ctxP` of the
      group `Poller` (`CodeTieNow`, dictionary `Rs/DictPoller.lean`);
    * the oracle of the property (`C14.Holds`, `C05.Holds`, `C06.Holds`, `C17.HoldsSandwich`) on the answer, decoded;
  the model functions (`computeBoundAt`, `clientNow`, `toClient`) occur only inside the proofs / as existential witnesses.

  HOW THE TWO RUNS ARE LINKED.  For the client crates `snapshot.now()` is a call to the environment: it returns the
  second input `inp 1` of the client's stream.  The hypothesis `nowRetOf (run (ctxP ..) "ClockErrorBound::now" ..) = some (inp 1)`
  says that this input IS the value the interpreted `ClockErrorBound::now` of the same source returns on the snapshot
  when its two clock reads deliver `x.real` and `x.mono` (both groups write this `Result` the same way, so no recoding
  is involved).  `C14_now_returns` shows that the hypothesis is satisfiable whenever the input is in the meaningful range.

  Compositions of `CodeTieErrors.rust_now_eq` / `ffi_now_eq` / `ffi_from_eq_all`, `CodeTieNow.now_reads` / `now_err_*`,
  `CodeTieErrorsTables.*` with `C05/C06/C14.model_holds`, `C14.no_panic`, `C17.c_err_kind_codes` / `c_status_codes` /
  `rust_header_layout` / `rust_record_layout`.
-/
import ClockBound.Properties.CodeTieErrors
import ClockBound.Properties.CodeTieNow
import ClockBound.Properties.C05
import ClockBound.Properties.C06
import ClockBound.Properties.C14
import ClockBound.Properties.C17
import ClockBound.Rs.EmbedShm
namespace ClockBound.OnCode
open ClockBound ClockBound.Rs ClockBound.Generated ClockBound.Rs.DictErrors ClockBound.Rs.EmbedErrors
open ClockBound.Rs.ErrorsProof

/-- the value a call returned (`none`: it panicked or left the interpreted fragment) -/
def nowRetOf : Rs.Outcome → Option Value
  | .ok v _ _ => some v
  | _ => none

/-- the answer of either client API, decoded: the interval and status, or the error (kind, errno, detail) -/
abbrev ApiAnswer := Except ClientErrV Bound

/-- the answers the oracles of C05/C06/C14 talk about: an interval, or one of the two error kinds that
    `compute_bound_at` produces, reported with errno 0 and no detail -/
def ApiAnswer.outcome : ApiAnswer → Option ClockBound.Outcome
  | .ok (e, l, s) => some (.ok e l s)
  | .error ⟨.malformed, 0, none⟩ => some .malformed
  | .error ⟨.causality, 0, none⟩ => some .causality
  | .error _ => none

/-- what `ClockBoundClient::now` of the current source does on the client `h`: the calls into clock-bound-shm
    it makes and its answer, decoded -/
def RustNowAnswers (inp : Nat → Value) (h : Value) (calls : List Value) (a : ApiAnswer) : Prop :=
  run (ctxE inp) "ClockBoundClient::now" (clientValue h) [] = rustNowOutcome h calls a

/-- what `clockbound_now` of the current source does on a valid context and output pointer: the calls it makes
    and its answer — NULL after one write of the interval and the status enumerator through `output`, or `&ctx.err`
    holding the `clockbound_err` (kind as the C enumerator, `sys_errno`, `detail`) -/
def FfiNowAnswers (inp : Nat → Value) (h err : Value) (calls : List Value) (a : ApiAnswer) : Prop :=
  run (ctxE inp) "ffi_lib::clockbound_now" .unit [heapPtr (ctxValue err h), outPtr "output"] = ffiNowOutcome calls a

theorem ffiNowAnswers_of (inp : Nat → Value) (h err : Value) (snap : Except ShmErrorV Record)
    (bound : Except ShmErrorV Bound) (h0 : inp 0 = snapResValue snap) (h1 : inp 1 = boundResValue bound) :
    FfiNowAnswers inp h err (nowCalls h snap bound) (clientNow snap bound) :=
  CodeTieErrors.ffi_now_eq inp h err snap bound h0 h1

/-- both client APIs on what the two calls into clock-bound-shm returned: the same calls, the same answer -/
theorem nowAnswers_of (inp : Nat → Value) (h err : Value) (snap : Except ShmErrorV Record)
    (bound : Except ShmErrorV Bound) (h0 : inp 0 = snapResValue snap) (h1 : inp 1 = boundResValue bound) :
    RustNowAnswers inp h (nowCalls h snap bound) (clientNow snap bound) ∧
    FfiNowAnswers inp h err (nowCalls h snap bound) (clientNow snap bound) :=
  ⟨CodeTieErrors.rust_now_eq inp h snap bound h0 h1, ffiNowAnswers_of inp h err snap bound h0 h1⟩

/-- a value `ClockErrorBound::now` returned is, as the client crates see it, the `Result` of a model outcome that is
    no panic (both groups write `Result<(timespec, timespec, ClockStatus), ShmError>` the same way), and the clients'
    answer on it decodes to that outcome -/
theorem ret_of_outcome (r r' : Record) (o : ClockBound.Outcome) (evs : List Value) (v : Value)
    (h : nowRetOf ((clientOutcome r o).after evs) = some v) :
    ∃ b, v = boundResValue b ∧ ApiAnswer.outcome (clientNow (.ok r') b) = some o ∧ o ≠ .panic := by
  cases o <;> cases h
  exacts [⟨.ok (_, _, _), rfl, rfl, nofun⟩, ⟨.error .malformed, rfl, rfl, nofun⟩, ⟨.error .causality, rfl, rfl, nofun⟩]

/-! ## C14 -/

/-- **C14, no panic, on the source**: for a record and readings in the meaningful range, `ClockErrorBound::now`
    of the current source returns a value (it neither panics nor gets stuck) — so the linking hypothesis of
    the theorems below is satisfiable -/
theorem C14_now_returns (x : ClientIn) (hm : x.meaningful = true) (nowNs : Int) (sizes : List (String × Nat))
    (clk : Nat → Value) (c0 : clk 0 = okTimespec x.real) (c1 : clk 1 = okTimespec x.mono) :
    ∃ v, nowRetOf (run (CodeTieNow.ctxP nowNs sizes clk) "ClockErrorBound::now" (recordValue x.r) []) = some v := by
  rw [CodeTieNow.now_reads x.r x.real x.mono nowNs sizes clk c0 c1]
  have := C14.no_panic x hm
  cases ho : computeBoundAt x.r x.real x.mono <;> simp_all [clientOutcome, Outcome.after, nowRetOf]

/-- **C14 (with C05, C06) at the API level, on the source.**  For EVERY record `x.r` that `snapshot()` hands to
    the client, EVERY pair of readings the two clock reads of `ClockErrorBound::now` deliver, every client / context
    and every environment: when `now()` on the snapshot returns (hypothesis `hnow`; by `C14_now_returns` always in
    the meaningful range), BOTH `ClockBoundClient::now` and `clockbound_now` of the current source
    * make the same two calls into clock-bound-shm (`snapshot()`, then `now()` on the record it returned),
    * give the SAME answer `a`, and `a` is an interval or one of the two documented error kinds
      (`SegmentMalformed`, `CausalityBreach`, errno 0, no detail) — decoded: an outcome `o` that is not a panic,
    * and `o` satisfies the oracles of C14 (malformed iff drift ≥ 10^9, causality iff older than as-of − 1 µs,
      age 0 inside the blur), C05 (interval centred on the realtime reading, half-width = bound + growth) and C06
      (status downgrade). -/
theorem C14_now_api (x : ClientIn) (h err : Value) (nowNs : Int) (sizes : List (String × Nat))
    (clk inp : Nat → Value) (c0 : clk 0 = okTimespec x.real) (c1 : clk 1 = okTimespec x.mono)
    (h0 : inp 0 = snapResValue (.ok x.r))
    (hnow : nowRetOf (run (CodeTieNow.ctxP nowNs sizes clk) "ClockErrorBound::now" (recordValue x.r) []) = some (inp 1)) :
    ∃ (a : ApiAnswer) (o : ClockBound.Outcome) (calls : List Value),
      RustNowAnswers inp h calls a ∧ FfiNowAnswers inp h err calls a ∧
      a.outcome = some o ∧ o ≠ .panic ∧
      C14.Holds x o = true ∧ C05.Holds x o = true ∧ C06.Holds x o = true := by
  rw [CodeTieNow.now_reads x.r x.real x.mono nowNs sizes clk c0 c1] at hnow
  obtain ⟨b, h1, ha, hp⟩ := ret_of_outcome x.r x.r _ _ _ hnow
  obtain ⟨hr, hf⟩ := nowAnswers_of inp h err (.ok x.r) b h0 h1
  exact ⟨_, _, _, hr, hf, ha, hp, C14.model_holds x, C05.model_holds x, C06.model_holds x⟩

/-- the answers are determined: whatever the Rust client answers under the hypotheses of `C14_now_api` is the
    `a` of that theorem (the embedding of answers is injective on what it is applied to: equal runs) -/
theorem C14_now_calls (x : ClientIn) (h : Value) (inp : Nat → Value) (bound : Except ShmErrorV Bound)
    (h0 : inp 0 = snapResValue (.ok x.r)) (h1 : inp 1 = boundResValue bound) :
    ∃ a, RustNowAnswers inp h
      [evSnapshot (readerValue h) (inp 0), evNow (recordValue x.r) (inp 1)] a := by
  rw [h0, h1]
  exact ⟨_, CodeTieErrors.rust_now_eq inp h (.ok x.r) bound h0 h1⟩

/-- **C14, "fail cleanly", when there is no snapshot**: `snapshot()` failed with ANY `ShmError` `e`: both APIs
    report the same error — kind never "none", errno 0 and no detail unless a system call failed —, after that
    single call (no clock is read, nothing is computed from stale data) -/
theorem C14_now_snapshot_error (e : ShmErrorV) (h err : Value) (inp : Nat → Value)
    (h0 : inp 0 = snapResValue (.error e)) :
    ∃ c : ClientErrV,
      RustNowAnswers inp h [evSnapshot (readerValue h) (inp 0)] (.error c) ∧
      FfiNowAnswers inp h err [evSnapshot (readerValue h) (inp 0)] (.error c) ∧
      c.kind ≠ .none ∧ (c.kind ≠ .syscall → c.errno = 0 ∧ c.detail = none) := by
  rw [h0]
  exact ⟨e.toClient, rust_now inp h (.error e) (.error e) h0 (fun _ h => nomatch h),
    ffi_now inp h err (.error e) (.error e) h0 (fun _ h => nomatch h),
    ErrorsProg.toClient_kind_ne_none e, ErrorsProg.toClient_errno e⟩

/-- **C14, "fail cleanly", when a clock read fails**: the read of CLOCK_REALTIME in `ClockErrorBound::now` fails
    with the system-call error `e`: `now()` of the current source returns that error after ONE read, and both
    APIs report it (kind `Syscall`, its errno, its origin) instead of an interval -/
theorem C14_now_clock_error (r : Record) (errno : Int) (origin : String) (h err : Value) (nowNs : Int)
    (sizes : List (String × Nat)) (clk inp : Nat → Value)
    (c0 : clk 0 = .enumv "Err" [shmErrorValue (.sys errno origin)])
    (h0 : inp 0 = snapResValue (.ok r))
    (hnow : nowRetOf (run (CodeTieNow.ctxP nowNs sizes clk) "ClockErrorBound::now" (recordValue r) []) = some (inp 1)) :
    ∃ calls,
      RustNowAnswers inp h calls (.error ⟨.syscall, errno, some origin⟩) ∧
      FfiNowAnswers inp h err calls (.error ⟨.syscall, errno, some origin⟩) := by
  rw [CodeTieNow.now_err_realtime r _ nowNs sizes clk c0] at hnow
  exact ⟨_, nowAnswers_of inp h err (.ok r) (.error (.sys errno origin)) h0 (Option.some.inj hnow).symm⟩

/-- … and when the read of the monotonic clock fails (after a successful read of CLOCK_REALTIME) -/
theorem C14_now_clock_error_mono (r : Record) (real : TimeSpec) (errno : Int) (origin : String) (h err : Value)
    (nowNs : Int) (sizes : List (String × Nat)) (clk inp : Nat → Value)
    (c0 : clk 0 = okTimespec real) (c1 : clk 1 = .enumv "Err" [shmErrorValue (.sys errno origin)])
    (h0 : inp 0 = snapResValue (.ok r))
    (hnow : nowRetOf (run (CodeTieNow.ctxP nowNs sizes clk) "ClockErrorBound::now" (recordValue r) []) = some (inp 1)) :
    ∃ calls,
      RustNowAnswers inp h calls (.error ⟨.syscall, errno, some origin⟩) ∧
      FfiNowAnswers inp h err calls (.error ⟨.syscall, errno, some origin⟩) := by
  rw [CodeTieNow.now_err_monotonic r real _ nowNs sizes clk c0 c1] at hnow
  exact ⟨_, nowAnswers_of inp h err (.ok r) (.error (.sys errno origin)) h0 (Option.some.inj hnow).symm⟩

/-! ## C17: the C library behaves as the Rust client -/

/-- an API answer as the harness observes it (`C17.NowAns`, `Model/OraclesH.lean`); an error of kind "none" does
    not exist in either API: mapped to a crash, which the oracle rejects -/
def nowAnsOf : ApiAnswer → C17.NowAns
  | .ok (e, l, s) => .out (.ok e l s)
  | .error ⟨.malformed, _, _⟩ => .out .malformed
  | .error ⟨.causality, _, _⟩ => .out .causality
  | .error ⟨.syscall, en, d⟩ => .sysErr en.toNat (d.getD "")
  | .error ⟨.notInit, _, _⟩ => .notInit
  | .error ⟨.none, _, _⟩ => .crash 0

/-- **C17, sandwich clause, on the source**: for EVERY result of `snapshot()` and EVERY result of `now()` on the
    snapshot (any interval, any status, any of the four error variants with any errno), the Rust client and the C
    library of the current source make the same calls and return the same answer `a` — same interval and status,
    same error kind, errno and detail — and the pair (Rust answer, C answer) satisfies the sandwich oracle -/
theorem C17_now_same_answer (inp : Nat → Value) (h err : Value) (snap : Except ShmErrorV Record)
    (bound : Except ShmErrorV Bound) (h0 : inp 0 = snapResValue snap) (h1 : inp 1 = boundResValue bound) :
    ∃ (a : ApiAnswer) (calls : List Value),
      RustNowAnswers inp h calls a ∧ FfiNowAnswers inp h err calls a ∧
      C17.HoldsSandwich (nowAnsOf a) (nowAnsOf a) = true := by
  obtain ⟨hr, hf⟩ := nowAnswers_of inp h err snap bound h0 h1
  refine ⟨_, _, hr, hf, ?_⟩
  rw [ErrorsProg.clientNow_eq_firstErr]
  cases firstErr snap bound with
  | ok b => obtain ⟨e, l, s⟩ := b; simp [nowAnsOf, C17.HoldsSandwich]
  | error e => cases e <;> simp [nowAnsOf, ShmErrorV.toClient, C17.HoldsSandwich]

/-- the status the C caller reads: `clock_status.into()` is `From<ClockStatus> for clockbound_clock_status` of the
    current source, which yields the enumerator whose value in clockbound.h is the status code of the segment
    layout (0 / 1 / 2) -/
theorem C17_status_as_published (inp : Nat → Value) (s : Status) :
    run (ctxE inp) "From<ClockStatus> for clockbound_clock_status::from" .unit [statusValue s]
      = .ok (ffiStatusValue s) .unit [] ∧
    (CHeader.enums.lookup "clockbound_clock_status").bind (·.lookup (ffiStatusName s)) = some s.code ∧
    (Code.enumDiscr.lookup "clockbound_clock_status").bind (·.lookup (ffiStatusName s)) = some (s.code : Int) := by
  refine ⟨CodeTieErrors.ffi_status_from_eq inp s, ?_, ?_⟩
  · rw [C17.c_status_codes]; cases s <;> rfl
  · rw [CodeTieErrors.ffi_status_table]; cases s <;> rfl

/-- **C17, error kinds as published, on the source**: for EVERY `ShmError`, the `clockbound_err` that the C library
    of the current source builds has errno and detail of `toClient`, and its kind is the enumerator that
    clockbound.h (regenerated table `CHeader.enums`) declares with the SAME name and the SAME value as the Rust
    enum (`Code.enumDiscr`): the number the C caller compares with `CLOCKBOUND_ERR_*` is the one the Rust side stored -/
theorem C17_err_kind_as_published (inp : Nat → Value) (e : ShmErrorV) (st : St) :
    ∃ c : ClientErrV,
      run (ctxE inp) "From<ShmError> for clockbound_err::from" .unit [shmErrorValue e] = .ok (ffiErrValue c) .unit [] ∧
      primCast Code.enumDiscr "u32" (ffiKindValue c.kind) st = some (.val (.int .u32 c.kind.code) st) ∧
      (CHeader.enums.lookup "clockbound_err_kind").bind (·.lookup (ffiKindName c.kind)) = some c.kind.code ∧
      c.kind ≠ .none := by
  refine ⟨e.toClient, CodeTieErrors.ffi_from_eq_all inp e, CodeTieErrors.ffi_kind_code _ st, ?_,
    ErrorsProg.toClient_kind_ne_none e⟩
  rw [C17.c_err_kind_codes]; cases e <;> rfl

/-- the two enums of the C API: the table the translator regenerates from clock-bound-ffi/src/lib.rs and the table
    regenerated from clockbound.h list the same enumerators with the same values, in the same order -/
theorem C17_enums_as_published :
    Code.enumDiscr.lookup "clockbound_err_kind" =
      (CHeader.enums.lookup "clockbound_err_kind").map (·.map fun p => (p.1, (p.2 : Int))) ∧
    Code.enumDiscr.lookup "clockbound_clock_status" =
      (CHeader.enums.lookup "clockbound_clock_status").map (·.map fun p => (p.1, (p.2 : Int))) := by
  rw [CodeTieErrors.ffi_kind_table, CodeTieErrors.ffi_status_table, C17.c_err_kind_codes, C17.c_status_codes]
  exact ⟨rfl, rfl⟩

/-- the struct sizes that the header tie (`CodeTieHeader.read_eq`, `reader_new_eq`: `size_of::<ShmHeader>()`,
    `size_of::<ClockErrorBound>()`) takes as inputs are the sizes of the `#[repr(C)]` layouts computed from the
    regenerated Rust definitions (`C17.rustLayout`), which `C17.rust_layout_is_model_layout` shows to be the published
    72-byte layout -/
theorem C17_sizes_as_published :
    EmbedShm.sizes.lookup "ShmHeader" = (C17.rustLayout "ShmHeader").map (·.2.1) ∧
    EmbedShm.sizes.lookup "ClockErrorBound" = (C17.rustLayout "ClockErrorBound").map (·.2.1) := by
  rw [C17.rust_header_layout, C17.rust_record_layout]
  exact ⟨rfl, rfl⟩

/-! ## non-vacuity -/

/-- the hypotheses of `C14_now_api` are satisfiable: streams with the prescribed first values exist, and the
    linking hypothesis holds for the value `now()` returns (`C14_now_returns`) -/
example (x : ClientIn) (hm : x.meaningful = true) (nowNs : Int) (sizes : List (String × Nat)) :
    ∃ clk inp : Nat → Value, clk 0 = okTimespec x.real ∧ clk 1 = okTimespec x.mono ∧
      inp 0 = snapResValue (.ok x.r) ∧
      nowRetOf (run (CodeTieNow.ctxP nowNs sizes clk) "ClockErrorBound::now" (recordValue x.r) []) = some (inp 1) := by
  let clk : Nat → Value := fun k => if k = 0 then okTimespec x.real else okTimespec x.mono
  obtain ⟨v, hv⟩ := C14_now_returns x hm nowNs sizes clk rfl rfl
  exact ⟨clk, fun k => if k = 0 then snapResValue (.ok x.r) else v, rfl, rfl, rfl, hv⟩

example : (⟨⟨⟨5,0⟩,⟨1005,0⟩,10000,50000,0,.synchronized⟩,⟨1700000000,7⟩,⟨4,999999001⟩⟩ : ClientIn).meaningful = true := by decide

/-- the decoders distinguish answers (the oracle statements are not about a constant) -/
example : (ApiAnswer.outcome (.error ⟨.syscall, 2, some "open"⟩)) = none ∧
    (ApiAnswer.outcome (.error ⟨.causality, 0, none⟩)) = some .causality ∧
    nowAnsOf (.error ⟨.syscall, 2, some "open"⟩) = .sysErr 2 "open" ∧
    C17.HoldsSandwich (nowAnsOf (.error ⟨.malformed, 0, none⟩)) (nowAnsOf (.error ⟨.causality, 0, none⟩)) = false := by
  decide

end ClockBound.OnCode

/-
  Translation tie, group `Errors`, part: the regenerated TABLES (enums, discriminants, declared types) of the
  two client crates against the model's `ErrKind` / `ErrKind.code` / `Status.code`.  No interpreter run is
  involved: these are statements about `Generated/Code.lean` alone, in a module of their own so that they are
  checked (and reported) independently of the proofs about the functions.  See `Properties/CodeTieErrors.lean`.
-/
import ClockBound.Proofs.RsEval
import ClockBound.Generated.Code
import ClockBound.Rs.EmbedErrors
namespace ClockBound.CodeTieErrors
open ClockBound ClockBound.Rs ClockBound.Generated ClockBound.Rs.DictErrors ClockBound.Rs.EmbedErrors

/-- the regenerated `#[repr(C)] enum clockbound_err_kind` has exactly the model's kinds, numbered by
    `ErrKind.code` (the discriminants Rust assigns: 0, 1, ..) -/
theorem ffi_kind_table :
    Code.enumDiscr.lookup "clockbound_err_kind" =
      some ([ErrKind.none, .syscall, .notInit, .malformed, .causality].map fun k => (ffiKindName k, (k.code : Int))) := by
  simp [rs_code, List.lookup, ffiKindName, ErrKind.code]

/-- so the kind the C caller reads (`kind as u32`, a C `enum`) is `ErrKind.code` -/
theorem ffi_kind_code (k : ErrKind) (st : St) :
    primCast Code.enumDiscr "u32" (ffiKindValue k) st = some (.val (.int .u32 k.code) st) := by
  cases k <;> simp only [rs_eval, rs_base, rs_code, ffiKindValue, ffiKindName, ErrKind.code]

/-- the Rust client's `ClockBoundErrorKind` has exactly the four error kinds, in the model's order -/
theorem client_kind_table :
    Code.enums.lookup "ClockBoundErrorKind" =
      some [("Syscall", 0), ("SegmentNotInitialized", 0), ("SegmentMalformed", 0), ("CausalityBreach", 0)] ∧
    [ErrKind.syscall, .notInit, .malformed, .causality].map clientKindValue =
      ["Syscall", "SegmentNotInitialized", "SegmentMalformed", "CausalityBreach"].map
        fun v => Value.enumv ("ClockBoundErrorKind::" ++ v) [] := by
  constructor
  · simp [rs_code, List.lookup]
  · rfl

/-- and `ShmError` itself has exactly the four variants of `ShmErrorV` -/
theorem shm_error_table :
    Code.enums.lookup "ShmError" =
      some [("SyscallError", 2), ("SegmentNotInitialized", 0), ("SegmentMalformed", 0), ("CausalityBreach", 0)] := by
  simp [rs_code]

/-- the discriminants of `clockbound_clock_status` are `Status.code` -/
theorem ffi_status_table :
    Code.enumDiscr.lookup "clockbound_clock_status" =
      some ([Status.unknown, .synchronized, .freeRunning].map fun s => (ffiStatusName s, (s.code : Int))) := by
  simp [rs_code, List.lookup, ffiStatusName, Status.code]

/-- the declared types of the destinations of `e.into()`, `clock_status.into()`, `Default::default()` in
    the C API: `ctx.err` and the pointee of `clockbound_open`'s `err` are `clockbound_err`, the status field of
    the result is `clockbound_clock_status` -/
theorem into_destinations :
    (Code.structs.lookup "clockbound_ctx").bind (·.lookup "err") = some "clockbound_err" ∧
    (Code.structs.lookup "clockbound_now_result").bind (·.lookup "clock_status") = some "clockbound_clock_status" ∧
    Code.fn_ffi_lib__clockbound_open.params.map (·.2) = ["*const c_char", "*mut clockbound_err"] := by
  simp [rs_code, List.lookup]

end ClockBound.CodeTieErrors

/-
  Translation tie, part 4: `ShmUpdater` (clock-bound-d/src/shm_writer.rs).

  For every updater state and every message, the ASTs regenerated from the Rust source of
  `process_clock_update`, `process_missing_clock_update` and `new` (and of the functions they call:
  `extract_bound_from_tracking`, `ChronyClockStatus::from`, `write_clock_error_bound`,
  `ClockErrorBound::new`, all inlined by the interpreter from the same table), run by the
  interpreter, leave `self` in exactly the state `Updater.step` computes and hand exactly the record
  `Updater.record` to `ShmWrite::write` — or panic where the model says `none` — and never get stuck.

  No range hypothesis is needed.
-/
import ClockBound.Proofs.RsUpdater
namespace ClockBound.CodeTieUpdater
open ClockBound ClockBound.Rs ClockBound.Generated

open scoped ClockBound.Rs.CallByValue

/-- `Message::ClockErrorBoundData((tracking, phc_error_bound, as_of))`, handled at realtime `nowNs` -/
theorem process_clock_update_eq (u : Updater) (t : Tracking) (phc : Int) (asOf : TimeSpec) (nowNs : Int) :
    run (Code.ctx nowNs) "ShmUpdater::process_clock_update" (updaterValue u)
      [trackingValue t, .int .i64 phc, ctimespecValue asOf]
    = updaterOutcome (u.step (.data t phc asOf nowNs)) :=
  run_eq_of_call (by simp only [rs_eval, rs_base, rs_code])
    ((UpdaterProof.call_data u t phc asOf nowNs Ext.none [] _ Ext.none_conservative 140 _).trans
      (UpdaterProof.updaterRes_eq ..))

/-- the four "no usable reply" messages -/
theorem process_missing_eq (u : Updater) (withinGrace : Bool) (nowNs : Int) :
    run (Code.ctx nowNs) "ShmUpdater::process_missing_clock_update" (updaterValue u) [.bool withinGrace]
    = updaterOutcome (u.step (.missing withinGrace)) :=
  run_eq_of_call (by simp only [rs_eval, rs_base, rs_code])
    ((UpdaterProof.call_missing u withinGrace nowNs Ext.none [] _ Ext.none_conservative 160 _).trans
      (UpdaterProof.updaterRes_eq ..))

/-- `ShmUpdater::new(writer, max_drift_ppb)` -/
theorem new_eq (drift : Nat) (nowNs : Int) :
    run (Code.ctx nowNs) "ShmUpdater::new" .unit [.writer, .int .u32 drift]
    = .ok (updaterValue (Updater.new drift)) .unit [] := by
  simp -implicitDefEqProofs only [rs_eval, rs_base, rs_code, updaterValue, ctimespecValue, Updater.new]

/-- the ranges the Rust types force (not needed above) -/
def Updater.inRange (u : Updater) : Bool :=
  decide (u.drift < 4294967296) && inI64 u.bound && inI64 u.asOf.sec && inI64 u.asOf.nsec &&
  decide (u.reserved < 4294967296)

example : Updater.inRange ⟨1000, .synchronized, 4811080296, ⟨123456, 789⟩, 0, true⟩ = true := by decide

end ClockBound.CodeTieUpdater

/-
  Translation tie, group `Threads` (C15): the main thread `thread_manager::run` (with `broadcast_abort`,
  `DispatchBox::{send, keys}`) and `Drop for Context::drop`, as REACTIVE programs.

  The interpreter runs the regenerated AST with the dictionary `Rs/DictThreads.lean` against an input stream: the
  i-th operation on the outside world (`new_channel_web`, `get_mailbox`, `spawn`, `recv`, `send`, `join`,
  `panicking`) returns `inp i` and is logged with its arguments and its result.  The theorems say, for ALL input
  streams that are shaped as the operations' types demand, what the log is and how the function ends, in terms of
  the operations of the model thread (`Model/ThreadsProg.lean`: `MainOp`, proved in `Properties/ThreadsProg.lean` to
  be the steps `stepMain` / `step _ (.mainAbort w)` / `stepPoller` / `stepWriter` of `Model/Threads.lean`).

  `main_eq` — for every iteration order `ks` of the dispatch box (the six permutations), every number `k` and
  sequence `pre` of received messages that are not notices, every result `stop` that is a `ThreadTerminate(_)`, a
  `ThreadPanic(_)` or a receive error, every outcome of the two sends and of the two joins, and every fuel
  ≥ k + 200: `run` creates the web, takes the poller's mailbox and spawns `chrony_poller::run(ctx_P, phc_info)`,
  takes the writer's mailbox and spawns `shm_writer::run(ctx_W, max_drift_ppb)`, takes its own mailbox
  (`startEvents`); receives the `k` messages and ignores them; receives `stop`; sends `ThreadAbort` to every channel
  of the box except `MainThread`, in the order `ks`, the second send also when the first failed; joins the poller's
  handle, then the writer's; returns `()`.  Nothing else is logged, `run` never panics and is never stuck.
  `main_ops_tail` / `main_ops_pre` read this log as the model's program `ThreadsProg.mainProg` (whose run by
  `stepMain` from `MainPc.loop` to `returned` is `ThreadsProgProps.main_prog_run`).
  Hypotheses are the shapes of the inputs only: `get_mailbox` finds the three ids that `run` itself registered
  (so the `unimplemented!` arms are not reached), handles are handles, `send`/`join` return a `Result`.

  `drop_eq` — for every thread id, box, value of `panicking()` and outcome of the send: exactly one send, to
  `MainThread`, of `ThreadPanic(id)` if `panicking()` else `ThreadTerminate(id)`; a failed send changes nothing
  (it is only logged by `error!`); `drop` returns `()` and leaves the Context as it was (= the model's
  `exiting k → dropping` step, `ThreadsProgProps.drop_step_poller/_writer`).
-/
import ClockBound.Proofs.RsThreadsMain
import ClockBound.Proofs.RsThreadsDrop
import ClockBound.Properties.ThreadsProg
import ClockBound.Rs.Embed
namespace ClockBound.CodeTieThreads
open ClockBound ClockBound.Rs ClockBound.Generated ClockBound.Rs.DictThreads ClockBound.Rs.EmbedThreads
open ClockBound.Threads ClockBound.Rs.ThreadsProof

section
open scoped ClockBound.Rs.CallByValue

theorem main_eq (ks : List Thread) (hks : isOrder ks = true) (drift : Nat) (phc : Option (Nat × Value))
    (nP nW : String) (k F : Nat) (pre : Nat → RMsg) (hnot : ∀ i, i < k → (pre i).isNotice = false)
    (stop : Recv) (hstops : stop.stops = true) (ok1 ok2 okP okW : Bool) (nowNs : Int) (inp : Nat → Value)
    (h0 : inp 0 = .tuple [mailboxValue, dispatchValue ks])
    (h1 : inp 1 = .enumv "Some" [rxValue (chanValue .poller)])
    (h2 : inp 2 = handleValue nP)
    (h3 : inp 3 = .enumv "Some" [rxValue (chanValue .writer)])
    (h4 : inp 4 = handleValue nW)
    (h5 : inp 5 = .enumv "Some" [rxValue (chanValue .main)])
    (hpre : ∀ i, i < k → inp (6 + i) = (Recv.ok (pre i)).value)
    (hstop : inp (6 + k) = stop.value)
    (hs1 : inp (6 + k + 1) = sendResult ok1 RMsg.abort.value)
    (hs2 : inp (6 + k + 2) = sendResult ok2 RMsg.abort.value)
    (hj1 : inp (6 + k + 3) = joinResult okP)
    (hj2 : inp (6 + k + 4) = joinResult okW) :
    runFuel (F + k + 200) (Code.ctxWith nowNs DictThreads.ext [] inp) "thread_manager::run" .unit
      [.int .u32 drift, phcValue phc]
    = .ok .unit .unit (startEvents ks phc drift nP nW ++
        (mainEvs k pre stop ks ok1 ok2 nP nW okP okW).map MainEv.value) := by
  -- the function up to its `loop` (`↓bcastCall_wrap`: for a `run` that calls `broadcast_abort` outside its loop)
  simp -implicitDefEqProofs only [rs_eval, rs_base, rs_code, dispatchValue, allChans, handleValue, h0, h1, h2, h3, h4, h5,
    ↓bcastCall_wrap]
  rw [Nat.add_right_comm F k]
  -- the `k` ignored messages: the loop body is evaluated once, on a message only known not to be a notice
  rw [evalWhile_skip (d := 30) (k := k) (P := fun i => i) (hP := rfl) (hE := rfl)
    (E := fun i => (List.range i).map fun j => evRecv (Value.enumv "ChannelId::MainThread" []) (Recv.ok (pre j)).value)]
  case hc =>
    intro i hi N hN
    obtain ⟨M, rfl⟩ := Nat.exists_eq_add_of_le' hN
    simp -implicitDefEqProofs only [rs_eval, rs_base, rs_code]
  case hb =>
    intro i hi N hN next
    obtain ⟨M, rfl⟩ := Nat.exists_eq_add_of_le' hN
    have hin := hpre i hi
    obtain ⟨name, args, hv, hne1, hne2⟩ := value_nonNotice (pre i) (hnot i hi)
    simp only [Recv.value, hv] at hin
    simp -implicitDefEqProofs only [rs_eval, rs_base, rs_code, hin, hne1, hne2, List.range_succ]
    simp [Recv.value, hv, Nat.add_assoc]
  case a => omega
  -- the message that stops the loop, in its three shapes: the call of `broadcast_abort` is rewritten by `bcast_eq`,
  -- the joins follow
  have hj1' : inp (6 + k + 1 + 2) = joinResult okP := hj1
  have hj2' : inp (6 + k + 1 + 2 + 1) = joinResult okW := hj2
  have hb := fun env log M => bcast_eq ks hks ok1 ok2 nowNs inp env log (6 + k + 1) M hs1 hs2
  simp only [dispatchValue, allChans, hashMapValue, chanValue, txValue, List.map, bcastCall_wrap] at hb
  rw [evalWhile_succ]
  obtain ⟨c, rfl⟩ | ⟨c, rfl⟩ | rfl :
      (∃ c, stop = .ok (.terminate c)) ∨ (∃ c, stop = .ok (.panic c)) ∨ stop = .disconnected := by
    rcases stop with (_ | _ | c | c | _) | _ <;> simp_all [Recv.stops, RMsg.isNotice]
  all_goals
    simp only [Recv.value, RMsg.value] at hstop
    simp -implicitDefEqProofs only [rs_eval, rs_base, rs_code, evalFor_cons, evalFor_nil, hstop, ↓bcastCall_wrap, hb,
      hj1', hj2']
    simp [startEvents, mainEvs, MainEv.value, Recv.value, RMsg.value, thunkValue, contextValue, dispatchValue,
      allChans, handleValue, rs_eval, List.map_append]

end

/-- the first worker the box yields -/
def firstWorker (ks : List Thread) : Worker := (ks.filterMap workerOf).headD .poller

/-- every ignored message is a receive of a model message that is not a notice -/
theorem main_ops_pre (m : RMsg) (h : m.isNotice = false) :
    ∃ x, MainEv.abs (.recv (.ok m)) = some (.recv x) ∧ x.isNotice = false := by
  cases m with
  | terminate c | panic c => simp [RMsg.isNotice] at h
  | _ => exact ⟨_, rfl, rfl⟩

/-- from the notice on, the log read as model operations is the tail of `ThreadsProg.mainProg`: the receive of the
    notice, Abort to the first worker of the box, Abort to the other one, join poller, join writer -/
theorem main_ops_tail (ks : List Thread) (hks : isOrder ks = true) (m : RMsg) (n : Threads.Msg) (hm : m.abs = some n)
    (ok1 ok2 okP okW : Bool) (nP nW : String) :
    (mainEvs 0 (fun _ => m) (.ok m) ks ok1 ok2 nP nW okP okW).filterMap MainEv.abs
    = ThreadsProg.mainProg [] n (firstWorker ks) := by
  rcases isOrder_cases hks with h | h | h | h | h | h <;> subst h <;>
    simp [mainEvs, bcastEvs, MainEv.abs, hm, ThreadsProg.mainProg, firstWorker, workerOf, ThreadsProg.other] <;>
    (try decide)

theorem drop_eq (c : Thread) (ks : List Thread) (p ok : Bool) (nowNs : Int) (inp : Nat → Value)
    (h0 : inp 0 = .bool p) (h1 : inp 1 = sendResult ok (noticeOf c p).value) :
    run (Code.ctxWith nowNs DictThreads.ext [] inp) "Drop for Context::drop" (contextValue c ks) []
    = .ok .unit (contextValue c ks)
        [evPanicking (.bool p),
         evSend (chanValue .main) (noticeOf c p).value (sendResult ok (noticeOf c p).value)] :=
  drop_tie c ks p ok nowNs inp h0 h1

/-- the notice of a worker is the model's `notice w k` -/
example : (noticeOf .poller true).abs = some (.notice .poller .panic) ∧
    (noticeOf .writer false).abs = some (.notice .writer .terminate) := ⟨rfl, rfl⟩

/-! ### non-vacuity -/

/-- the hypotheses of `main_eq` are satisfiable: a concrete input stream (box iterating writer, main, poller;
    two ignored messages; the poller's panic notice; the first send fails) -/
def demoInp : Nat → Value
  | 0 => .tuple [mailboxValue, dispatchValue [.writer, .main, .poller]]
  | 1 => .enumv "Some" [rxValue (chanValue .poller)]
  | 2 => handleValue "h1"
  | 3 => .enumv "Some" [rxValue (chanValue .writer)]
  | 4 => handleValue "h2"
  | 5 => .enumv "Some" [rxValue (chanValue .main)]
  | 6 => (Recv.ok .abort).value
  | 7 => (Recv.ok (.noData .chrony)).value
  | 8 => (Recv.ok (.panic .poller)).value
  | 9 => sendResult false RMsg.abort.value
  | 10 => sendResult true RMsg.abort.value
  | 11 => joinResult false
  | _ => joinResult true

example : isOrder [.writer, .main, .poller] = true := by decide

example : runFuel 202 (Code.ctxWith 0 DictThreads.ext [] demoInp) "thread_manager::run" .unit
      [.int .u32 1000, phcValue none]
    = .ok .unit .unit (startEvents [.writer, .main, .poller] none 1000 "h1" "h2" ++
        (mainEvs 2 (fun i => if i = 0 then .abort else .noData .chrony) (.ok (.panic .poller))
          [.writer, .main, .poller] false true "h1" "h2" false true).map MainEv.value) := by
  refine main_eq [.writer, .main, .poller] (by decide) 1000 none "h1" "h2" 2 0 _ ?_ _ rfl false true false true 0
    demoInp rfl rfl rfl rfl rfl rfl ?_ rfl rfl rfl rfl rfl
  · intro i hi
    match i, hi with
    | 0, _ => rfl
    | 1, _ => rfl
  · intro i hi
    match i, hi with
    | 0, _ => rfl
    | 1, _ => rfl

/-- ... and the Abort sends of that run go to the writer first, then to the poller -/
example : bcastEvs [.writer, .main, .poller] false true = [.abort .writer false, .abort .poller true] := rfl

section
open scoped ClockBound.Rs.CallByValue
/-- without the dictionary `run` is stuck at its first operation -/
example : (run (Code.ctx 0) "Drop for Context::drop" (contextValue .poller [.main, .poller, .writer]) []).isStuck
    = true := by
  simp -implicitDefEqProofs only [rs_eval, rs_base, rs_code, contextValue, dispatchValue, Outcome.isStuck]
end

end ClockBound.CodeTieThreads

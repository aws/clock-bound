/-
  The daemon model for C07–C10, C19 and C01: the updater after a history of poll outcomes in closed
  form (so a run publishes `C08.spec` record by record), chrony's wire floats in binary64, and the
  rounding error of the bound pipeline `boundF`.
-/
import ClockBound.Model.OraclesD
import ClockBound.Proofs.Client
namespace ClockBound

/-! ### derived `BEq` instances are reflexive -/

theorem TimeSpec.beq_self (a : TimeSpec) : (a == a) = true := by
  cases a; simp [BEq.beq, instBEqTimeSpec.beq]

theorem Status.beq_self (a : Status) : (a == a) = true := by cases a <;> rfl

theorem ChronyStatus.beq_self (a : ChronyStatus) : (a == a) = true := by cases a <;> rfl

/-! ### the updater, one message at a time -/

theorem fsmStep_eq (s : Status) (c : ChronyStatus) : fsmStep s c = statusOfChrony c := by
  cases s <;> cases c <;> rfl

/-- the updater state after an outcome (no overflow checks) -/
def Updater.after (u : Updater) : PollOutcome → Updater
  | .report b cs a =>
    if cs = .synchronized then
      { u with fsm := fsmStep u.fsm cs, bound := b, asOf := a, hasMeasurement := true }
    else { u with fsm := fsmStep u.fsm cs }
  | .silence g => { u with fsm := fsmStep u.fsm (if g then .freeRunning else .unknown) }

/-- the record an updater publishes when `as_of + 1000 s` does not overflow -/
def Updater.pub (u : Updater) : Record :=
  { asOf := u.asOf, voidAfter := ⟨u.asOf.sec + 1000, 0⟩, bound := u.bound, drift := u.drift,
    reserved := u.reserved, status := if u.hasMeasurement then u.fsm else .unknown }

/-- the second half of `Updater.step`, common to both kinds of message -/
theorem Updater.publish_eq (u : Updater) :
    (u.record.bind fun r => some (u, r)) =
      if inI64 (u.asOf.sec + 1000) then some (u, u.pub) else none := by
  unfold Updater.record chk
  split <;> rfl

/-- a step that does not panic moves to `after` of the abstract outcome and publishes its record -/
theorem Updater.step_some {u u' : Updater} {m : Msg} {r : Record} (h : u.step m = some (u', r)) :
    u' = u.after (abstractMsg m) ∧ r = u'.pub := by
  have publish : ∀ {v : Updater}, (v.record.bind fun r => some (v, r)) = some (u', r) →
      u' = v ∧ r = u'.pub := by
    intro v hv
    rw [Updater.publish_eq] at hv
    split at hv <;> cases hv
    exact ⟨rfl, rfl⟩
  cases m with
  | data t phc a now =>
    change ((chk (boundF t + phc)).bind fun b =>
      (u.after (.report b (classify t now) a)).record.bind _) = _ at h
    unfold chk at h
    split at h
    · exact publish h
    · cases h
  | missing g => exact publish h

theorem Updater.step_ok {u : Updater} {m : Msg} (hm : m.ok = true)
    (hr : inI64 ((u.after (abstractMsg m)).asOf.sec + 1000) = true) :
    u.step m = some (u.after (abstractMsg m), (u.after (abstractMsg m)).pub) := by
  rw [← if_pos hr (t := some _) (e := none), ← Updater.publish_eq]
  cases m with
  | data t phc a now =>
    simp only [Msg.ok, Bool.and_eq_true] at hm
    change ((chk (boundF t + phc)).bind _) = _
    unfold chk
    rw [if_pos hm.1]
    rfl
  | missing g => rfl

/-! ### histories of poll outcomes (C08, C09, provenance in C01) -/

/-- bound and as-of carried by a synchronised report -/
def syncOf : PollOutcome → Option (Int × TimeSpec)
  | .report b .synchronized a => some (b, a)
  | _ => none

theorem syncOf_eq_some {o : PollOutcome} {b : Int} {a : TimeSpec} :
    syncOf o = some (b, a) ↔ o = .report b .synchronized a := by
  cases o with
  | report b' cs a' => cases cs <;> simp [syncOf]
  | silence g => simp [syncOf]

/-- `lastSync` finds the last outcome that carries a measurement -/
theorem lastSync_eq (l : List PollOutcome) : lastSync l = l.reverse.findSome? syncOf := by
  induction l with
  | nil => rfl
  | cons o rest ih =>
    rw [List.reverse_cons, List.findSome?_append, ← ih]
    cases o with
    | report b cs a => cases cs <;> cases h : lastSync rest <;> simp [lastSync, syncOf, h]
    | silence g => cases h : lastSync rest <;> simp [lastSync, syncOf, h]

theorem lastSync_concat (h : List PollOutcome) (o : PollOutcome) :
    lastSync (h ++ [o]) = (syncOf o).or (lastSync h) := by
  simp only [lastSync_eq, List.reverse_append, List.reverse_singleton, List.singleton_append, List.findSome?_cons]
  cases syncOf o <;> rfl

theorem lastSync_eq_none_iff (l : List PollOutcome) :
    lastSync l = none ↔ ∀ o ∈ l, syncOf o = none := by
  simp [lastSync_eq]

theorem lastSync_mem {l : List PollOutcome} {b : Int} {a : TimeSpec} (h : lastSync l = some (b, a)) :
    .report b .synchronized a ∈ l := by
  rw [lastSync_eq] at h
  obtain ⟨o, ho, hs⟩ := List.exists_of_findSome?_eq_some h
  rw [syncOf_eq_some] at hs
  exact hs ▸ List.mem_reverse.1 ho

/-- the updater after a history of outcomes, in closed form -/
theorem Updater.foldl_after (drift : Nat) (h : List PollOutcome) :
    h.foldl Updater.after (Updater.new drift) =
      { drift := drift, fsm := statusOfChrony ((h.getLast?.map PollOutcome.cls).getD .unknown),
        bound := ((lastSync h).getD (0, ⟨0, 0⟩)).1, asOf := ((lastSync h).getD (0, ⟨0, 0⟩)).2,
        hasMeasurement := (lastSync h).isSome } := by
  induction h using List.reverseRecOn with
  | nil => rfl
  | append_singleton h o ih =>
    rw [List.foldl_append, ih, lastSync_concat, List.getLast?_concat]
    cases o with
    | report b cs a => cases cs <;> simp [Updater.after, syncOf, fsmStep_eq, PollOutcome.cls]
    | silence g => simp [Updater.after, syncOf, fsmStep_eq, PollOutcome.cls]

/-- hence what it publishes is C08's `spec` of the history -/
theorem Updater.pub_foldl_after (drift : Nat) (h : List PollOutcome) :
    (h.foldl Updater.after (Updater.new drift)).pub = C08.spec drift h := by
  rw [Updater.foldl_after]; rfl

/-! ### whole runs -/

/-- the `k`-th record of a run is published by the updater that has seen the first `k + 1` outcomes -/
theorem Updater.run_getElem? {u : Updater} {msgs : List Msg} {k : Nat} {r : Record}
    (h : (Updater.run u msgs)[k]? = some r) :
    r = (((msgs.map abstractMsg).take (k + 1)).foldl Updater.after u).pub := by
  induction msgs generalizing u k with
  | nil => cases h
  | cons m ms ih =>
    unfold Updater.run at h
    cases hs : u.step m with
    | none => rw [hs] at h; cases h
    | some p =>
      obtain ⟨u', r0⟩ := p
      obtain ⟨rfl, rfl⟩ := Updater.step_some hs
      rw [hs] at h
      cases k with
      | zero => cases h; rfl
      | succ k => exact ih h

/-- a run from a fresh updater publishes, record by record, `C08.spec` of the outcomes so far
    (it may stop early, at an overflow) -/
theorem Updater.run_new_getElem? {drift : Nat} {msgs : List Msg} {k : Nat} {r : Record}
    (h : (Updater.run (Updater.new drift) msgs)[k]? = some r) :
    r = C08.spec drift ((msgs.map abstractMsg).take (k + 1)) := by
  rw [Updater.run_getElem? h, Updater.pub_foldl_after]

theorem Updater.mem_run_new {drift : Nat} {msgs : List Msg} {r : Record}
    (h : r ∈ Updater.run (Updater.new drift) msgs) :
    ∃ k, r = C08.spec drift ((msgs.map abstractMsg).take (k + 1)) := by
  obtain ⟨k, hk⟩ := List.getElem?_of_mem h
  exact ⟨k, Updater.run_new_getElem? hk⟩

/-- without overflow every message is answered by a publication -/
theorem Updater.run_length {u : Updater} {msgs : List Msg} (hu : inI64 (u.asOf.sec + 1000) = true)
    (hok : ∀ m ∈ msgs, m.ok = true) : (Updater.run u msgs).length = msgs.length := by
  induction msgs generalizing u with
  | nil => rfl
  | cons m ms ih =>
    have hm := hok m List.mem_cons_self
    have hu' : inI64 ((u.after (abstractMsg m)).asOf.sec + 1000) = true := by
      cases m with
      | data t phc a now =>
        simp only [Msg.ok, Bool.and_eq_true] at hm
        simp only [abstractMsg, Updater.after]
        split
        · exact hm.2
        · exact hu
      | missing g => exact hu
    unfold Updater.run
    rw [Updater.step_ok hm hu']
    exact congrArg (· + 1) (ih hu' fun m' h => hok m' (List.mem_cons_of_mem _ h))

/-! ### chrony floats in binary64 (C07, C10) -/

/-- a chrony float times a power of two is a double -/
theorem rne53_chronyFloat_mul_pow (w : Nat) (k : Int) :
    F64.rne53 (F64.chronyFloat w * (2:ℚ)^k) = F64.chronyFloat w * (2:ℚ)^k := by
  obtain ⟨m, e, hm, _, _, hc⟩ := F64.chronyFloat_repr w
  rw [hc, mul_assoc, ← zpow_add₀ two_ne_zero]
  exact F64.rne53_exact m _ (hm.trans (by norm_num))

theorem chronyFloat_mul8 (w : Nat) : F64.mul (F64.chronyFloat w) 8 = F64.chronyFloat w * 8 := by
  have := rne53_chronyFloat_mul_pow w 3
  norm_num at this
  exact this

theorem chronyFloat_div2 (w : Nat) : F64.div (F64.chronyFloat w) 2 = F64.chronyFloat w / 2 := by
  have := rne53_chronyFloat_mul_pow w (-1)
  rwa [zpow_neg_one, ← div_eq_mul_inv] at this

theorem timeout_eq (t : Tracking) :
    F64.castU64 (F64.mul (F64.chronyFloat t.intervalW) 8) = C10.thresholdSecs t := by
  rw [chronyFloat_mul8, F64.castU64_eq]; rfl

theorem leapClass_cases (leap : Nat) :
    (leap ≤ 2 ∧ leapClass leap = .synchronized) ∨ (leap = 3 ∧ leapClass leap = .freeRunning) ∨
    (leap ≥ 4 ∧ leapClass leap = .unknown) := by
  unfold leapClass
  split_ifs with h1 h2
  · exact .inl ⟨h1, rfl⟩
  · exact .inr (.inl ⟨h2, rfl⟩)
  · exact .inr (.inr ⟨by omega, rfl⟩)

/-! ### the bound pipeline (C07) -/

theorem absR_eq_abs (x : ℚ) : absR x = |x| := by
  unfold absR
  split_ifs with h
  · rw [abs_of_neg h]
  · rw [abs_of_nonneg (not_lt.mp h)]

theorem absR_neg (x : ℚ) : absR (-x) = absR x := by
  rw [absR_eq_abs, absR_eq_abs, abs_neg]

theorem absR_nonneg (x : ℚ) : 0 ≤ absR x := by
  rw [absR_eq_abs]; exact abs_nonneg x

/-- `boundF` with the sign test written as `absR` -/
theorem boundF_def (t : Tracking) :
    boundF t = F64.castI64 (F64.ceil (F64.mul (F64.add (F64.add (F64.div (F64.chronyFloat t.delayW) 2)
      (F64.chronyFloat t.dispW)) (absR (F64.chronyFloat t.offW))) 1000000000)) := rfl

theorem applicable_spec {t : Tracking} {phc : Int} (h : C07.applicable t phc = true) :
    0 ≤ F64.chronyFloat t.dispW ∧ 0 ≤ F64.chronyFloat t.delayW ∧
    C07.exactNs t < 4611686018427387904 ∧ 0 ≤ phc ∧ phc < 4611686018427387904 := by
  simp only [C07.applicable, Bool.and_eq_true, decide_eq_true_eq] at h
  obtain ⟨⟨⟨h1, h2⟩, h3⟩, h4, h5⟩ := h
  exact ⟨h1, h2, h3, h4, h5⟩

/-- C07 for the chrony part of the bound -/
theorem boundF_bounds (t : Tracking) (hs : 0 ≤ F64.chronyFloat t.dispW)
    (hd : 0 ≤ F64.chronyFloat t.delayW) (hE : C07.exactNs t < 4611686018427387904) :
    0 ≤ boundF t ∧ C07.exactNs t * (1 - C07.eps51) ≤ (boundF t : ℚ) ∧
    (boundF t : ℚ) < C07.exactNs t * (1 + C07.eps51) + 1 := by
  -- `delay/2 + disp`, rounded, plus `|off|`, rounded, times `10^9`, rounded
  have hc := (((Rounded.exact (E := F64.chronyFloat t.delayW / 2 + F64.chronyFloat t.dispW)
    (by positivity)).round.add (absR_nonneg (F64.chronyFloat t.offW))).round.mul
    (k := 1000000000) (by norm_num)).round
  rw [show (F64.chronyFloat t.delayW / 2 + F64.chronyFloat t.dispW +
      absR (F64.chronyFloat t.offW)) * 1000000000 = C07.exactNs t by unfold C07.exactNs; ring] at hc
  -- the bound is the ceiling of that value `c` (the halving is exact)
  obtain ⟨c, hc, hb⟩ : ∃ c, Rounded 3 (C07.exactNs t) c ∧ boundF t = F64.castI64 ((c.ceil : Int) : ℚ) :=
    ⟨_, hc, by rw [boundF_def, chronyFloat_div2]; rfl⟩
  obtain ⟨c0, cl, cu⟩ := hc.three
  rw [hb, show C07.eps51 = 1 / 2 ^ 51 by norm_num [C07.eps51]]
  -- the ceiling stays below `2^63`, so the cast is exact
  have h1 : c ≤ (c.ceil : ℚ) := Rat.le_ceil
  have h2 : (c.ceil : ℚ) < c + 1 := Rat.ceil_lt
  have hn0 : 0 ≤ c.ceil := by exact_mod_cast c0.trans h1
  have hn1 : c.ceil < 9223372036854775808 := by
    have : (c.ceil : ℚ) < 9223372036854775808 := by linarith only [h2, cu, hE]
    exact_mod_cast this
  rw [F64.castI64_intCast (by omega) (by omega)]
  exact ⟨hn0, by linarith only [cl, h1], by linarith only [cu, h2]⟩

/-- a sum below `10^12` ns is covered up to a rounding error below `2^-11` ns, and the bound stays below `2^60` -/
theorem boundF_covers {t : Tracking} {phc : Int} (h : C07.applicable t phc = true)
    (hlt : C07.exactNs t + (phc : ℚ) < 1000000000000) :
    0 ≤ boundF t + phc ∧ boundF t + phc < 1152921504606846976 ∧
    C07.exactNs t ≤ (boundF t : ℚ) + 1 / 2048 := by
  obtain ⟨hs, hd, hE, hp0, _⟩ := applicable_spec h
  obtain ⟨b0, bl, bu⟩ := boundF_bounds t hs hd hE
  have hp0q : (0 : ℚ) ≤ phc := by exact_mod_cast hp0
  unfold C07.eps51 at bl bu
  refine ⟨by omega, ?_, by linarith only [bl, hlt, hp0q]⟩
  have : ((boundF t + phc : Int) : ℚ) < 1152921504606846976 := by
    push_cast; linarith only [bu, hlt, hp0q]
  exact_mod_cast this

end ClockBound

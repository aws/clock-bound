/-
  Proofs for `Properties/C01Pipeline.lean`: the seven words the seqlock copies against the 56-byte
  layout of a record, and C02 composed with that layout.
-/
import ClockBound.Model.Pipeline
import ClockBound.Proofs.Header
import ClockBound.Proofs.Daemon
import ClockBound.Properties.C02
namespace ClockBound.Pipeline.Proofs
open ClockBound ClockBound.SL ClockBound.Pipeline

theorem decLE_encI64 (x : Int) : decLE (encI64 x) = ofI64 x := by
  unfold encI64 ofI64
  rw [decLE_encLE]
  have : (x % (TWO64 : Int)).toNat < 256 ^ 8 := by
    simp only [TWO64]; omega
  exact Nat.mod_eq_of_lt this

theorem toI64_ofI64 (x : Int) (h : i64InRange x) : toI64 (ofI64 x) = x := by
  rw [← decLE_encI64]
  exact decI64_encI64 x h

theorem cells_roundtrip (r : Record) (pad : Nat) (hr : r.inRange) (_hp : pad < TWO32) :
    recordOfCells (cellsOf r pad) = some r := by
  obtain ⟨h1, h2, h3, h4, h5, h6, h7⟩ := hr
  have hc := code_lt r.status
  unfold cellsOf recordOfCells
  have e1 : (r.status.code + TWO32 * pad) % TWO32 = r.status.code := by
    simp only [TWO32] at *; omega
  have e2 : (r.drift + TWO32 * r.reserved) % TWO32 = r.drift := by
    simp only [TWO32] at *; omega
  have e3 : (r.drift + TWO32 * r.reserved) / TWO32 % TWO32 = r.reserved := by
    simp only [TWO32] at *; omega
  simp only [e1, e2, e3, ofCode_code, Option.map_some, toI64_ofI64 _ h1, toI64_ofI64 _ h2,
    toI64_ofI64 _ h3, toI64_ofI64 _ h4, toI64_ofI64 _ h5]

/-- the `i`-th eight-byte word of a concatenation of eight-byte chunks is the `i`-th chunk -/
theorem slice_flatten : ∀ (chunks : List Bytes) (i : Nat) (h : i < chunks.length),
    (∀ c ∈ chunks, c.length = 8) → slice chunks.flatten (8 * i) 8 = chunks[i]
  | c :: cs, 0, _, h8 => by simp [slice, ← h8 c List.mem_cons_self]
  | c :: cs, i + 1, h, h8 => by
    have ih := slice_flatten cs i (Nat.lt_of_succ_lt_succ h) fun c' m => h8 c' (List.mem_cons_of_mem _ m)
    have : 8 * (i + 1) = c.length + 8 * i := by rw [h8 c List.mem_cons_self]; omega
    simpa only [slice, List.flatten_cons, this, List.drop_length_add_append, List.getElem_cons_succ] using ih

theorem cellsOfBytes_flatten (chunks : List Bytes) (hn : chunks.length = N)
    (h8 : ∀ c ∈ chunks, c.length = 8) : cellsOfBytes chunks.flatten = chunks.map decLE := by
  apply List.ext_getElem (by simp [cellsOfBytes, hn])
  intro i h1 h2
  simp only [cellsOfBytes, List.getElem_map, List.getElem_range]
  rw [slice_flatten chunks i (by simpa using h2) h8]

theorem cellsOf_bytes (r : Record) (pad : Nat) (hr : r.inRange) (hp : pad < TWO32) :
    cellsOf r pad = cellsOfBytes (encodeRecordP r (padOf pad)) := by
  obtain ⟨_, _, _, _, _, h6, h7⟩ := hr
  have hc := code_lt r.status
  have hpad : padBytes (padOf pad) = encLE 4 pad := rfl
  have hb : encodeRecordP r (padOf pad) =
      [encI64 r.asOf.sec, encI64 r.asOf.nsec, encI64 r.voidAfter.sec, encI64 r.voidAfter.nsec,
       encI64 r.bound, encU32 r.drift ++ encU32 r.reserved,
       encU32 r.status.code ++ encLE 4 pad].flatten := by
    simp only [encodeRecordP, hpad, List.flatten_cons, List.flatten_nil, List.append_assoc,
      List.append_nil]
  rw [hb, cellsOfBytes_flatten _ rfl]
  · have e : ∀ {v}, v < TWO32 → v % 256 ^ 4 = v := fun h => Nat.mod_eq_of_lt h
    simp only [List.map, cellsOf, decLE_encI64, decLE_append, encU32, decLE_encLE, length_encLE,
      e h6, e h7, e hc, e hp]
    rfl
  · simp only [List.forall_mem_cons, List.not_mem_nil, false_imp_iff, implies_true, and_true]
    exact ⟨rfl, rfl, rfl, rfl, rfl, rfl, rfl⟩

theorem empty_record_untrusted (real mono e l : TimeSpec) (st : Status)
    (h : computeBoundAt Record.empty real mono = .ok e l st) : st = .unknown :=
  computeBoundAt_unknown rfl h

theorem snapshot_is_published (a : Ann) (ha : a.adequate = true)
    (ver gen : Nat) (cells0 : List Nat) (hc : cells0.length = N) (hg : gen < 65536)
    (s : Sys) (hreach : Reachable a (Sys.init ver gen cells0) s)
    (hnowrap : ∀ t, Reachable a (Sys.init ver gen cells0) t → ∀ g1 retries got pm,
        t.r.pc = .gen2 g1 retries got → (load t.log t.r.view .gen a.rGen2 pm).1 = g1 →
        evenGenBetween t.log t.r.g1Idx (load t.log t.r.view .gen a.rGen2 pm).2.1 < 32767)
    (pub : List Record)
    (hwr : ∀ c ∈ s.written, ∃ r ∈ pub, ∃ pad, pad < TWO32 ∧ r.inRange ∧ c = cellsOf r pad)
    (hini : cells0 = zerosN ∨ ∃ r ∈ pub, ∃ pad, pad < TWO32 ∧ r.inRange ∧ cells0 = cellsOf r pad) :
    ∀ c ∈ s.returned, ∃ r, recordOfCells c = some r ∧ (r = Record.empty ∨ r ∈ pub) := by
  intro c hcr
  have hz : recordOfCells zerosN = some Record.empty := by decide
  rcases C02.no_mixture_general a ha ver gen cells0 hc hg s hreach hnowrap c hcr with h | h | h
  · exact ⟨_, h ▸ hz, Or.inl rfl⟩
  · rcases hini with h0 | ⟨r, hr, pad, hp, hin, h0⟩
    · exact ⟨_, (h.trans h0) ▸ hz, Or.inl rfl⟩
    · exact ⟨r, (h.trans h0) ▸ cells_roundtrip r pad hin hp, Or.inr hr⟩
  · obtain ⟨r, hr, pad, hp, hin, h0⟩ := hwr c h
    exact ⟨r, h0 ▸ cells_roundtrip r pad hin hp, Or.inr hr⟩

end ClockBound.Pipeline.Proofs

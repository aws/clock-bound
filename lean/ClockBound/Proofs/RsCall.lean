/-
  Calls as rewrite rules.  A function of the tables is evaluated once, as an equation
  `callDecl (N + d) ctx Code.fn_f self args st = ..` for every fuel from the depth `d` of `f` on, every state and
  every dictionary that only adds rules (`Ext.Conservative`).  The statement about `run` is a corollary
  (`run_eq_of_call`), and a caller of `f` rewrites with the equation as a pre-rule (`↓`: it is tried before the
  interpreter's own equation for `callDecl`), so that the body of `f` is not evaluated again.
-/
import ClockBound.Proofs.RsLemmas
import ClockBound.Generated.Code
namespace ClockBound.Rs

/-- a dictionary that only ADDS rules: the three hooks that the core consults BEFORE its own rules (the type of
    untyped integer literals, the conversion of the error by `?`, the retyping of a pointer by a `let`) are those of
    `Ext.none`.  A function that evaluates without a dictionary then evaluates in the same way with such a one:
    the call lemmas are stated for these (a hook left symbolic would be a stuck scrutinee with every function of
    the table below it). -/
abbrev Ext.Conservative (ext : Ext) : Prop :=
  ext.litFallback = Option.none ∧ (∀ ret v, ext.errFrom ret v = Option.none) ∧ ∀ ty v, ext.letPtr ty v = Option.none

theorem Ext.none_conservative : Ext.none.Conservative := ⟨rfl, fun _ _ => rfl, fun _ _ => rfl⟩

/-- the interpreter's overflow check at `i64` is the model's `chk` (used instead of unfolding `chkInt`: the decision
    tree then has the model's own test) -/
theorem chkInt_i64 (v : Int) (st : St) : chkInt .i64 v st = orPanic (chk v) fun w => .val (.int .i64 w) st := by
  unfold chkInt chk inI64 I64_MIN I64_MAX
  by_cases h : -9223372036854775808 ≤ v ∧ v ≤ 9223372036854775807 <;> simp [h, IntTy.lo, IntTy.hi, orPanic]

/-- what a call amounts to from the state `st`, for a function that consumes no input: its outcome, with its log
    appended to that of `st` -/
def Outcome.toRes (st : St) : Outcome → Res
  | .ok v s l => .val (.tuple [v, s]) ⟨st.env, st.log ++ l, st.pos⟩
  | .panic => .panic
  | .stuck m => .stuck m

theorem run_eq_of_call {ctx : Ctx} {name : String} {d : FnDecl} {self : Value} {args : List Value} {o : Outcome}
    (hd : ctx.fns.lookup name = some d)
    (h : callDecl defaultFuel ctx d self args ⟨[], [], 0⟩ = o.toRes ⟨[], [], 0⟩) : run ctx name self args = o := by
  rw [run_of_call hd h]
  cases o <;> rfl

end ClockBound.Rs

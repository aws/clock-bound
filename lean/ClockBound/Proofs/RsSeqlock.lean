/-
  Proofs of the translation tie for the seqlock: `ShmWrite for ShmWriter::write` and `ShmReader::snapshot`
  (statements in `Properties/CodeTieSeqlock.lean`).

  The memory orderings are not in any proof: the annotation `snapAnn` is read off probe runs of the two functions and
  its value is computed once (`annVal`); likewise the layout of the interpreter state at the head of the reader's retry
  loop (`probeVal`).  The writer: what the one evaluation of `write` (under its statement) needs.  The reader, in
  stages: what the dictionary's record copy reads and logs, in the model's terms; the loop of the code in closed form
  (`loopOutG`) and what it has to do with the model's (`loopOutG_spec`).  One iteration of the loop and the loop itself
  are in `RsSnapWhile.lean` / `RsSnapFor.lean`, the function around it in `RsSnapshot.lean`.
-/
import ClockBound.Proofs.RsShm
import ClockBound.Model.Pipeline
namespace ClockBound.Rs.SeqlockProof
open ClockBound ClockBound.Rs ClockBound.Generated ClockBound.Rs.DictShm ClockBound.Rs.EmbedShm

open scoped ClockBound.Rs.CallByValue
-- `write` and `snapshot` are functions of part A of the dictionary (the mapped segment); the conditional equations of
-- the matchers of the other parts are dear to derive, and would be derived in every module that evaluates
attribute [-rs_eval] DictShm.methodB DictShm.methodC DictShm.methodD DictShm.callC DictShm.callD

/-! ### the writer's annotation, read off a probe run

  `write` is run once on a probe input (generation 4, a record without words): the orderings its four
  accesses name are the writer fields of the annotation — found by evaluation, not written in a proof, so that a
  refactoring that strengthens an ordering changes the annotation, not the theorems. -/

/-- the last event of a log -/
def lastOf : List Value → Value
  | [] => .unit
  | [x] => x
  | _ :: y :: r => lastOf (y :: r)

/-- the ordering a load / store / fence event names -/
def evOrd : Value → Option SL.Ord
  | .ext "load" [_, o, _] => ordOfValue o
  | .ext "store" [_, _, o] => ordOfValue o
  | .ext "fence" [o] => ordOfValue o
  | _ => none

def isFenceEv : Value → Bool
  | .ext "fence" _ => true
  | _ => false

def writeProbeLog : List Value :=
  match run (Code.ctxWith 0 DictShm.ext [] (rawInp fun _ => 4)) "ShmWrite for ShmWriter::write" (writerValue 72)
      [wordsValue []] with
  | .ok _ _ l => l
  | _ => []

/-- the annotation of the writer found in the source (reader fields: the defaults, not used by `writerProg`) -/
def writeAnn : SL.Ann :=
  { wLoad := (evOrd (writeProbeLog.getD 0 .unit)).getD .relaxed,
    wStore1 := (evOrd (writeProbeLog.getD 1 .unit)).getD .relaxed,
    wFence := if isFenceEv (writeProbeLog.getD 2 .unit) then evOrd (writeProbeLog.getD 2 .unit) else none,
    wStore2 := (evOrd (lastOf writeProbeLog)).getD .relaxed }

/-! ### the reader -/

/-- frame of `ShmReader::snapshot` -/
def sfr : Frame := ⟨"reader", "ShmReader", "Result<&ClockErrorBound,ShmError>"⟩

/-- the positions at which an attempt of the retry loop starts: 2, 2 + (N+1), 2 + 2(N+1), … -/
def AttemptPos (pos : Nat) : Prop := ∃ j, pos = 2 + (SL.N + 1) * j

theorem AttemptPos.next {pos : Nat} (h : AttemptPos pos) : AttemptPos (pos + SL.N + 1) := by
  obtain ⟨j, rfl⟩ := h
  exact ⟨j + 1, by simp only [SL.N]; omega⟩

theorem loadCard_cell {pos : Nat} (h : AttemptPos pos) (c : Nat) (hc : c < SL.N) :
    loadCard (pos + c) = 18446744073709551616 := by
  obtain ⟨j, rfl⟩ := h
  unfold loadCard SL.N at *
  split <;> omega

theorem loadCard_gen2 {pos : Nat} (h : AttemptPos pos) : loadCard (pos + SL.N) = 65536 := by
  obtain ⟨j, rfl⟩ := h
  unfold loadCard SL.N
  split <;> omega

/-- at a 16-bit location the reduction of a load result is the reduction to `u16` -/
theorem typedInp_u16 (inp : Nat → Nat) {k : Nat} (h : loadCard k = 65536) :
    ((inp k : Nat) : Int) % 65536 = ((typedInp inp k : Nat) : Int) := by
  unfold typedInp
  rw [h]
  omega

theorem readWords_raw (inp : Nat → Nat) : ∀ k c pos,
    readWords (rawInp inp) k c pos
    = some ((List.range k).map fun i => Value.int .u64 (((inp (pos + i) : Nat) : Int) % 18446744073709551616)) := by
  intro k
  induction k with
  | zero => intro c pos; simp [readWords]
  | succ k ih =>
    intro c pos
    simp only [readWords, ih, rawInp, asU64, List.range_succ_eq_map, List.map_cons, List.map_map]
    simp [Function.comp_def, Nat.add_assoc, Nat.add_comm 1]

/-- the volatile copy of the record reads the words `attemptCells (typedInp inp) pos` -/
theorem readWords_attempt (inp : Nat → Nat) {pos : Nat} (h : AttemptPos pos) :
    readWords (rawInp inp) SL.N 0 pos
    = some ((SL.attemptCells (typedInp inp) pos).map fun (w : Nat) => Value.int .u64 (w : Int)) := by
  rw [readWords_raw, SL.attemptCells, List.map_map]
  congr 1
  apply List.map_congr_left
  intro i hi
  have hi' : i < SL.N := List.mem_range.mp hi
  simp only [Function.comp, typedInp, loadCard_cell h i hi']
  congr 1

theorem wordLoads_range (f : Nat → Nat) : ∀ k c,
    wordLoads c ((List.range k).map fun i => Value.int .u64 ((f i : Nat) : Int))
    = ((List.range k).map fun i => SL.Acc.load (.cell (c + i)) .relaxed (f i)).map accValue := by
  intro k
  induction k generalizing f with
  | zero => intro c; simp [wordLoads]
  | succ k ih =>
    intro c
    simp only [List.range_succ_eq_map, List.map_cons, List.map_map, wordLoads]
    have := ih (fun i => f (i + 1)) (c + 1)
    simp only [Function.comp_def] at this ⊢
    rw [this]
    simp [accValue, locValue, locTy, ordValue, Function.comp_def, Nat.add_assoc, Nat.add_comm 1]

/-- the load events of that copy are the model's cell loads -/
theorem wordLoads_attempt (inp : Nat → Nat) (pos : Nat) :
    wordLoads 0 ((SL.attemptCells inp pos).map fun (w : Nat) => Value.int .u64 (w : Int))
    = ((List.range SL.N).map fun c => SL.Acc.load (.cell c) .relaxed (inp (pos + c))).map accValue := by
  have := wordLoads_range (fun c => inp (pos + c)) SL.N 0
  simpa [SL.attemptCells, List.map_map, Function.comp_def] using this

/-- the context of the statements: the generated tables, the dictionary, the raw input stream -/
abbrev sctx (nowNs : Int) (sizes : List (String × Nat)) (inp : Nat → Nat) : Ctx :=
  Code.ctxWith nowNs DictShm.ext sizes (rawInp inp)

/-- how a loop state is built from: remaining budget, generation to confirm, cached generation, cached
    record, log, position in the input stream -/
abbrev MkSt := Nat → Nat → Nat → List Nat → List Value → Nat → St

/-! ### the layout of the loop state, read off a PROBE run (so that names, number and order of the local
  variables, helper functions and accessor methods are not in the proofs)

  The statements of `snapshot` before its retry loop are run on a probe input — version 7, generation 10, cached
  generation 3 — for which no early return is taken; the environment this leaves is the layout of the state at
  the head of the loop, and `relabel` puts the actual values where the probe values are: the generation to
  confirm for 10, the version for 7, the retry budget for the literal 1000000 (if the loop counts down), the
  reader for the probe reader. -/

/-- the statements before the first top-level loop of a body -/
def loopPrefix : List Stmt → List Stmt
  | [] => []
  | s :: rest =>
    match s with
    | .expr (.whileE _ _) _ => []
    | .expr (.forE _ _ _) _ => []
    | .expr (.loopE _) _ => []
    | _ => s :: loopPrefix rest

def probeInp : Nat → Nat := fun k => if k = 0 then 7 else 10

/-- the state the statements before the loop leave on the probe input -/
def probeSt : St :=
  match evalBlock 150 (sctx 0 [] probeInp) sfr (loopPrefix Code.fn_ShmReader__snapshot_stmts)
      { env := [("self", readerValue 3 [])], log := [], pos := 0 } with
  | .val _ st => st
  | _ => { env := [], log := [] }

/-- the local variables at the head of the retry loop on the probe input -/
def probeEnv : List (String × Value) := probeSt.env

/-- the actual values for the probe values -/
def relabel (tc : IntTy) (k g1 v cg : Nat) (cache : List Nat) : Value → Value
  | .int t n => if n = 10 then .int t g1 else if n = 7 then .int t v else if n = 1000000 then .int tc k else .int t n
  | .struct "ShmReader" _ => readerValue cg cache
  | x => x

/-- the first top-level `for` of a body: pattern, iterator, body (`findWhile`'s counterpart) -/
def findFor : List Stmt → Option (Pat × Expr × List Stmt)
  | [] => none
  | s :: rest =>
    match s with
    | .expr (.forE p it b) _ => some (p, it, b)
    | _ => findFor rest

/-- the state at the head of the retry loop: `tc`, `k` the type and value of the retry counter (if there is one),
    `g1` the generation to confirm, `v` the version read -/
def LSg (tc : IntTy) (v : Nat) : MkSt := fun k g1 cg cache lg pos =>
  { env := probeEnv.map fun p => (p.1, relabel tc k g1 v cg cache p.2), log := lg, pos := pos }

/-! #### the reader's annotation, read off the probe

  The orderings of the version load and of the first generation load are those of the two events of the probe run of
  the prefix; the fence and the re-check are those of ONE run of the loop body from the probe state (the `N` cell
  loads come first, then the fence if there is one, then the generation load).  The writer fields are `writeAnn`'s. -/

def logOf : Res → List Value
  | .val _ st => st.log
  | .ret _ st => st.log
  | .brk _ st => st.log
  | .cont st => st.log
  | _ => []

/-- the accesses of one run of the loop body on the probe state -/
def bodyLog : List Value :=
  match findWhile Code.fn_ShmReader__snapshot_stmts, findFor Code.fn_ShmReader__snapshot_stmts with
  | some (_, b), _ => logOf (evalBlock 150 (sctx 0 [] probeInp) sfr b { env := probeEnv, log := [], pos := 2 })
  | none, some (p, _, b) =>
    logOf (evalFor 150 (sctx 0 [] probeInp) sfr p b [.int .infer 0] { env := probeEnv, log := [], pos := 2 })
  | none, none => []

/-- the annotation found in the source: `writeAnn` for the writer, the probe for the reader -/
def snapAnn : SL.Ann :=
  { writeAnn with
    rVersion := (evOrd (probeSt.log.getD 0 .unit)).getD .relaxed,
    rGen1 := (evOrd (probeSt.log.getD 1 .unit)).getD .relaxed,
    rFence := if isFenceEv (bodyLog.getD 7 .unit) then evOrd (bodyLog.getD 7 .unit) else none,
    rGen2 := (evOrd (lastOf bodyLog)).getD .relaxed }

/-- the value of `probeSt`, computed once by the evaluator (the term is not written here: it follows the source) -/
def probeVal : { s : St // probeSt = s } :=
  ⟨_, by
    simp -implicitDefEqProofs only [probeSt, loopPrefix, probeInp, rs_eval, rs_base, rs_code, sfr, rawInp, readerValue, wordsValue]
    rfl⟩

/-- how `simp` evaluates the layout `LSg`: `simp only [LSg, probeEnv, probeSt_eq, probeVal, relabel, ..]` -/
theorem probeSt_eq : probeSt = probeVal.1 := probeVal.2

/-- the value of `snapAnn`, computed once by running the probes (the term is not written here: it follows the source) -/
def annVal : { a : SL.Ann // snapAnn = a } :=
  ⟨_, by with_unfolding_all (conv => lhs; whnf; congr <;> whnf)⟩

/-- how `simp` evaluates an ordering of the annotation: `simp only [snapAnn_eq, annVal, ..]` -/
theorem snapAnn_eq : snapAnn = annVal.1 := annVal.2

/-! ### the writer -/

/-- the dictionary's word stores are the model's cell stores -/
theorem wordStores_eq (cells : List Nat) (c : Nat) :
    wordStores c (cells.map fun (w : Nat) => Value.int .u64 (w : Int))
    = ((List.range cells.length).map fun i => SL.Acc.store (.cell (c + i)) .relaxed (cells[i]?.getD 0)).map accValue := by
  induction cells generalizing c with
  | nil => simp [wordStores]
  | cons w ws ih =>
    simp only [List.map_cons, wordStores, List.length_cons, List.range_succ_eq_map, List.map_map]
    rw [ih (c + 1)]
    simp [accValue, locValue, locTy, ordValue, Function.comp_def, Nat.add_assoc, Nat.add_comm 1]

/-! ### the retry loop of the CODE in closed form, generic in how the interpreter state is laid out -/

/-- one attempt of the loop from the state `mk (k + 1) ..` — the volatile copy, the fence, the re-check: either the
    snapshot is accepted (`return Ok(..)` with the cache updated) or the loop goes on (`next`, in the layout `mk'`) with one
    retry less and, if the generation seen is even, with that generation as the one to confirm -/
def attemptOut (tinp : Nat → Nat) (cg : Nat) (cache : List Nat) (mk mk' : MkSt) (k pos g1 : Nat) (lg : List Value)
    (next : St → Res) : Res :=
  if g1 = tinp (pos + SL.N) then
    .ret (.enumv "Ok" [wordsValue (SL.attemptCells tinp pos)])
      (mk (k + 1) g1 g1 (SL.attemptCells tinp pos) (lg ++ (SL.attemptAccs snapAnn tinp pos).map accValue) (pos + SL.N + 1))
  else
    next (mk' k (if tinp (pos + SL.N) % 2 = 0 then tinp (pos + SL.N) else g1) cg cache
      (lg ++ (SL.attemptAccs snapAnn tinp pos).map accValue) (pos + SL.N + 1))

/-- same recursion as `SL.readerLoop`, but with the whole interpreter state (`mk` lays out the first
    iteration, `mk'` the later ones: the `while` form changes the type of its counter after the first
    `retries -= 1`) -/
def loopOutG (tinp : Nat → Nat) (cg : Nat) (cache : List Nat) (mk' : MkSt) : MkSt → Nat → Nat → Nat → List Value → Res
  | mk, 0, pos, g1, lg => .val .unit (mk 0 g1 cg cache lg pos)
  | mk, k + 1, pos, g1, lg =>
    if g1 = tinp (pos + SL.N) then
      .ret (.enumv "Ok" [wordsValue (SL.attemptCells tinp pos)])
        (mk (k + 1) g1 g1 (SL.attemptCells tinp pos) (lg ++ (SL.attemptAccs snapAnn tinp pos).map accValue)
          (pos + SL.N + 1))
    else
      loopOutG tinp cg cache mk' mk' k (pos + SL.N + 1) (if tinp (pos + SL.N) % 2 = 0 then tinp (pos + SL.N) else g1)
        (lg ++ (SL.attemptAccs snapAnn tinp pos).map accValue)

/-- a layout that keeps the reader in `self` and the log where the rest of the function looks for them -/
def GoodMk (mk : MkSt) : Prop :=
  ∀ k g1 cg cache lg pos, envGet (mk k g1 cg cache lg pos).env "self" = some (readerValue cg cache) ∧
    (mk k g1 cg cache lg pos).log = lg

theorem goodMk_LSg (tc : IntTy) (v : Nat) : GoodMk (LSg tc v) := by
  intro k g1 cg cache lg pos
  simp only [LSg, probeEnv, probeSt_eq, probeVal, relabel, rs_eval, rs_base, readerValue, wordsValue]

/-- what the rest of `snapshot` needs to know about the outcome `r` of the loop, in terms of what the MODEL's
    `SL.readerLoop` returns: the log grew by the model's accesses, and either the loop accepted — a
    `return Ok(&snapshot_ceb)` with the cache updated — or its budget is used up — it ends normally with the cache
    untouched -/
def LoopPost (r : Res) (lg : List Value) (cg : Nat) (cache : List Nat) (out : List SL.Acc × Option (Nat × List Nat)) : Prop :=
  ∃ st', st'.log = lg ++ out.1.map accValue ∧
    match out.2 with
    | some (g', cells) => r = .ret (.enumv "Ok" [wordsValue cells]) st' ∧ envGet st'.env "self" = some (readerValue g' cells)
    | none => r = .val .unit st' ∧ envGet st'.env "self" = some (readerValue cg cache)

theorem loopOutG_spec (tinp : Nat → Nat) (cg : Nat) (cache : List Nat) (mk' : MkSt) (hmk' : GoodMk mk') :
    ∀ k mk, GoodMk mk → ∀ pos g1 lg,
      LoopPost (loopOutG tinp cg cache mk' mk k pos g1 lg) lg cg cache (SL.readerLoop snapAnn tinp k pos g1) := by
  intro k
  induction k with
  | zero =>
    intro mk hmk pos g1 lg
    exact ⟨_, by simp [SL.readerLoop, (hmk 0 g1 cg cache lg pos).2], rfl, (hmk 0 g1 cg cache lg pos).1⟩
  | succ k ih =>
    intro mk hmk pos g1 lg
    rw [loopOutG, SL.readerLoop]
    simp only
    split
    · exact ⟨_, (hmk _ _ _ _ _ _).2, rfl, (hmk _ _ _ _ _ _).1⟩
    · obtain ⟨st', h3, h⟩ := ih mk' hmk' (pos + SL.N + 1) (if tinp (pos + SL.N) % 2 = 0 then tinp (pos + SL.N) else g1)
        (lg ++ (SL.attemptAccs snapAnn tinp pos).map accValue)
      exact ⟨st', by simp [h3], h⟩

/-- a well-typed stream of load results is not changed by the reduction to the width of the locations -/
theorem typedInp_id (inp : Nat → Nat) (h : ∀ k, inp k < loadCard k) : typedInp inp = inp := by
  funext k
  exact Nat.mod_eq_of_lt (h k)

end ClockBound.Rs.SeqlockProof

/-
  Arithmetic of the generation word (`genStart`, `genFinish`: the two stores of `ShmWriter::write`):
  parity, range, and that a publication changes the value.
-/
import ClockBound.Model.Daemon
namespace ClockBound

theorem genStart_of_even (g : Nat) (h : g % 2 = 0) : genStart g = (g + 1) % 65536 := if_pos h

theorem genStart_of_odd (g : Nat) (h : g % 2 = 1) : genStart g = g := if_neg (by omega)

theorem genStart_odd (g : Nat) : genStart g % 2 = 1 := by
  unfold genStart; split <;> omega

theorem genStart_ne_zero (g : Nat) : genStart g ≠ 0 := by
  have := genStart_odd g; omega

theorem genStart_lt (g : Nat) (hg : g < 65536) : genStart g < 65536 := by
  unfold genStart; split <;> omega

/-- a writer that finds an update in flight carries on from the odd value -/
theorem genStart_idem (g : Nat) : genStart (genStart g) = genStart g := genStart_of_odd _ (genStart_odd g)

/-- the second store: the successor modulo 2^16, skipping 0 -/
theorem genFinish_eq (g : Nat) : genFinish g = if (g + 1) % 65536 = 0 then 2 else (g + 1) % 65536 := rfl

theorem genFinish_lt (g : Nat) : genFinish g < 65536 := by
  rw [genFinish_eq]; split <;> omega

theorem genFinish_ne_zero (g : Nat) : genFinish g ≠ 0 := by
  rw [genFinish_eq]; split <;> omega

theorem genFinish_even (g : Nat) (h : g % 2 = 1) : genFinish g % 2 = 0 := by
  rw [genFinish_eq]; split <;> omega

/-- a completed update changes the generation, whatever value (even, or odd after a crash) it starts from -/
theorem genFinish_genStart_ne_self (g : Nat) : genFinish (genStart g) ≠ g := by
  rw [genFinish_eq]; unfold genStart; split <;> split <;> omega

/-- a completed update from an even value adds 2, and 65534 is followed by 2 -/
theorem genFinish_genStart_of_even {g : Nat} (hg : g % 2 = 0) (h : g < 65536) :
    genFinish (genStart g) = if g = 65534 then 2 else g + 2 := by
  rw [genFinish_eq, genStart_of_even g hg]
  split <;> split <;> omega

end ClockBound

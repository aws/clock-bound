/-
  Proofs of the translation tie for the two client libraries, part: `ClockBoundClient::now` and `clockbound_now`
  (statements in `Properties/CodeTieErrors.lean`).  One evaluation for each of the three ways through a function
  (no snapshot; a snapshot and no bound; both); the error and the status that are converted stay variables
  (`client_from_decl`, `ffi_from_decl`, `ffi_status_from_decl`).  The second input is read only if there is a
  snapshot: only then is anything assumed about it.
-/
import ClockBound.Proofs.RsErrorsFrom
namespace ClockBound.Rs.ErrorsProof
open ClockBound ClockBound.Rs ClockBound.Generated ClockBound.Rs.DictErrors ClockBound.Rs.EmbedErrors

open scoped ClockBound.Rs.CallByValue

theorem rust_now (inp : Nat → Value) (h : Value) (snap : Except ShmErrorV Record) (bound : Except ShmErrorV Bound)
    (h0 : inp 0 = snapResValue snap) (h1 : ∀ r, snap = .ok r → inp 1 = boundResValue bound) :
    run (ctxE inp) "ClockBoundClient::now" (clientValue h) []
    = rustNowOutcome h (nowCalls h snap bound) (clientNow snap bound) := by
  cases snap with
  | error e => simp -implicitDefEqProofs only [rs_eval, rs_base, rs_code, h0]
  | ok r =>
    have h1 := h1 r rfl
    cases bound <;> simp -implicitDefEqProofs only [rs_eval, rs_base, rs_code, h0, h1]

theorem ffi_now (inp : Nat → Value) (h err : Value) (snap : Except ShmErrorV Record) (bound : Except ShmErrorV Bound)
    (h0 : inp 0 = snapResValue snap) (h1 : ∀ r, snap = .ok r → inp 1 = boundResValue bound) :
    run (ctxE inp) "ffi_lib::clockbound_now" .unit [heapPtr (ctxValue err h), outPtr "output"]
    = ffiNowOutcome (nowCalls h snap bound) (clientNow snap bound) := by
  cases snap with
  | error e => simp -implicitDefEqProofs only [rs_eval, rs_base, rs_code, h0]
  | ok r =>
    have h1 := h1 r rfl
    cases bound <;> simp -implicitDefEqProofs only [rs_eval, rs_base, rs_code, h0, h1, userTypeName_status]

end ClockBound.Rs.ErrorsProof

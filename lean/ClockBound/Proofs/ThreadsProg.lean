/-
  The control-flow functions of `Model/ThreadsProg.lean` over an appended list and along the repeated parts of the
  closed-form programs (for `Properties/ThreadsProg.lean` and `Proofs/OnCodeThreads.lean`).
-/
import ClockBound.Model.ThreadsProg
namespace ClockBound.ThreadsProg
open ClockBound.Threads

theorem mainNexts_append (pc : MainPc) (a b : List MainOp) :
    mainNexts pc (a ++ b) = (mainNexts pc a).bind fun pc' => mainNexts pc' b := by
  fun_induction mainNexts pc a <;> simp_all [mainNexts]

theorem pollerNexts_append (pc : PollerPc) (a b : List PollerOp) :
    pollerNexts pc (a ++ b) = (pollerNexts pc a).bind fun pc' => pollerNexts pc' b := by
  fun_induction pollerNexts pc a <;> simp_all [pollerNexts]

theorem pollerNexts_iter (it : PollerIter) (h : it.wait ≠ some .abort) :
    pollerNexts .top it.ops = some .top := by
  obtain ⟨c, w⟩ := it
  cases c <;> cases w <;> simp_all [PollerIter.ops, pollerNexts, pollerNext]

theorem writerNexts_recvs (handled : List Msg) (rest : List WriterOp) (h : ∀ x ∈ handled, x ≠ .abort) :
    writerNexts .recv (handled.map .recv ++ rest) = writerNexts .recv rest := by
  induction handled with
  | nil => rfl
  | cons x xs ih =>
    simp only [List.forall_mem_cons] at h
    simpa [writerNexts, writerNext, h.1] using ih h.2

end ClockBound.ThreadsProg

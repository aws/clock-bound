/-
  Simp sets `rs_eval` and `rs_base`: how the proofs of the translation tie normalise the interpreter on a concrete
  program.  One `simp only [rs_eval, rs_base, rs_code, ..]` turns `run ctx name self args` (or a call `callDecl ..` from
  a symbolic state) into a decision tree whose inner nodes are the symbolic tests of the program (`if`,
  `orPanic (checked operation)`) and whose leaves are results: sequencing (`Res.bind`, `Res.on`) is pushed into the
  branches.  The evaluation goes by value (section "evaluation by value" below).
-/
import ClockBound.Rs.Interp
import ClockBound.Rs.Attr
import Lean.Meta.Tactic.Simp.BuiltinSimprocs
namespace ClockBound.Rs

/-! ### equations of the recursive functions (they fire on constructors only) -/
rs_register_eqns eval evalList evalBlock evalArms evalFields callDecl
rs_register_loop_eqns evalWhile evalFor
rs_register_eqns matchPat matchPat.matchPats matchPat.matchFields bindParams readPlace writePlace findLet findWhile
rs_register_eqns canon constKey lastSeg lastTwo envGet envSet insertField sortFields listGet listSet lookupFn localVar
  ascribeFields updateFields enumOfVariant discrOf sizeOf intConvAt

/-! ### the dictionary: equations that fire on constructors / literals only -/
rs_register_eqns IntTy.ofName IntTy.name IntTy.lo IntTy.hi IntTy.signed IntTy.unify IntTy.bits IntTy.toUnsigned
  litValue ascribe fieldOf setField binOp unOp primCast intBin f64Bin timespecBin durationBin
  primPath primCall primMethod primMethod2 intMethod closureMethod primMacro userTypeName typeName chronyOfValue
  rangeEnd callKeys methodDecl Res.outcome statusName chronyName adoptTy iterItems intConvCall runUnary wrapWith

/-! ### `rs_base`: the library lemmas and simprocs that `simp only [rs_eval, rs_code, rs_base]` needs to run a program

  Association lists with string keys, pattern lists, options, literals of `Nat`/`Int`/`String`, the connectives that
  remain of side conditions.  (The lemmas about casts and ordered arithmetic of Mathlib are added in `RsLemmas.lean`.) -/
attribute [rs_base]
  BEq.rfl Bool.and_eq_true Bool.and_false Bool.and_self Bool.and_true Bool.decide_or Bool.false_eq_true
  Bool.not_and Bool.not_eq_eq_eq_not Bool.not_eq_false Bool.not_eq_true Bool.not_false Bool.not_or Bool.not_true
  Bool.or_eq_true Bool.or_false Bool.or_self Bool.or_true Bool.true_and Bool.true_eq Bool.true_eq_false
  Int.add_zero Int.cast_ofNat_Int Int.emod_add_emod Int.natCast_emod Int.natCast_eq_zero Int.natCast_nonneg
  Int.natCast_pos Int.neg_neg_iff_pos Int.neg_ofNat_le_natCast Int.neg_ofNat_le_ofNat Int.sub_self Int.sub_zero
  Int.toNat_natCast Int.toNat_one Int.toNat_zero Int.zero_emod Int.zero_le_ofNat List.any_cons List.any_nil
  List.append_assoc List.append_nil List.cons.injEq List.cons_append List.cons_ne_self List.cons_prefix_cons
  List.contains_eq_mem List.drop_drop List.drop_left' List.drop_succ_cons List.drop_zero List.filter_cons_of_neg
  List.filter_cons_of_pos List.filter_nil List.find?_cons_of_neg List.find?_cons_of_pos List.find?_nil
  List.foldr_cons List.foldr_nil List.getD_eq_getElem?_getD List.getElem_cons_succ List.getElem_cons_zero
  List.length_append List.length_cons List.length_drop List.length_map List.length_nil List.lookup_cons_self
  List.lookup_nil List.map_append List.map_cons List.map_map List.map_nil List.mem_cons List.ne_cons_self
  List.nil_append List.nil_eq List.nil_prefix List.not_mem_nil List.prefix_nil List.prefix_rfl
  List.zipWith_cons_cons List.zipWith_nil_right Nat.add_left_cancel_iff Nat.add_one_sub_one Nat.add_sub_cancel
  Nat.add_sub_cancel_left Nat.and_one_is_mod Nat.land_eq Nat.le_add_left Nat.lor_eq Nat.lt_add_one Nat.sub_self
  Nat.zero_add Option.bind_eq_bind Option.bind_some Option.getD_none Option.getD_some Option.isSome_some
  Option.map_none Option.map_some Option.some.injEq Prod.mk.injEq Std.le_refl String.contains_char_eq
  String.empty_eq_iff String.startsWith_string_iff and_false and_self and_true beq_false beq_true bne_iff_ne
  bne_self_eq_false decide_eq_false_iff_not decide_eq_true_eq decide_false decide_true exists_and_left exists_eq'
  exists_eq_left' false_and false_implies forall_const ge_iff_le getElem?_pos gt_iff_lt if_true imp_false imp_self
  implies_true ite_eq_left_iff ite_eq_right_iff ite_self ne_eq not_and not_false_eq_true not_true_eq_false or_false
  or_self or_true true_and
attribute [rs_base_proc]
  Char.reduceEq Int.reduceAdd Int.reduceLE Int.reduceLT Int.reduceMod Int.reduceMul Int.reduceNeg Int.reduceSub
  Int.reduceTMod Int.reduceToNat List.reduceReplicate Nat.reduceAdd Nat.reduceEqDiff Nat.reduceLT Nat.reduceLeDiff
  Nat.reduceMod Nat.reduceSub String.reduceAppend String.reduceBEq String.reduceEq String.reduceLT
  String.reduceToList reduceCtorEq
attribute [rs_base_proc ↓] reduceIte Char.isValue

/-! ### small non-recursive definitions, unfolded

  `chkInt` (the overflow check) is NOT in `rs_eval`: a proof either unfolds it (`simp only [rs_eval, rs_base, rs_code, chkInt]`: the
  check becomes a node `if lo ≤ v ∧ v ≤ hi` of the decision tree), rewrites it into the model's `chk` (`chkInt_i64`,
  `Proofs/RsCall.lean`) or discharges it with `chkInt_ok` (`Proofs/RsLoop.lean`: a conditional rewrite, for symbolic
  iterations). -/
attribute [rs_eval] run runFuel evalIn defaultFuel Res.popTo St.popTo IntTy.card
  wrapInt boolRes enumArity mkStruct List.lookup statusValue chronyValue
  runMacro runCast runField Ctx.inputs allIntTys shiftInt St.input St.emit
  Value.int.injEq Value.f64.injEq Value.bool.injEq Value.str.injEq Value.timespec.injEq Value.ctimespec.injEq
  Value.duration.injEq Value.enumv.injEq Value.tuple.injEq Value.struct.injEq Value.chronyFloat.injEq Value.fsm.injEq
  Value.systime.injEq Value.opaque.injEq Value.ext.injEq Value.list.injEq Res.val.injEq Res.ret.injEq Outcome.ok.injEq
  Expr.call.injEq Expr.field.injEq Expr.mcall.injEq

/-! ### evaluation by value

  `simp` normalises the continuation `fun v st => ..` of a sequencing operator before the value it will be applied to is
  known: every `match` on the bound `v` is stuck and is tried against its equations, whose side conditions cannot be
  discharged, and the work is done again once the value is there.  The congruence lemmas below let `simp` rewrite the
  scrutinee only.  They take effect only when every rewrite carries a proof: `simp` drops a congruence lemma whose
  hypothesis it proved by `rfl`-lemmas alone, and the interpreter's equations are `rfl`-lemmas.  So the evaluating calls are
  `simp -implicitDefEqProofs only [rs_eval, rs_base, rs_code, ..]` in a file that says `open scoped ClockBound.Rs.CallByValue`,
  which also makes the contraction rules of the operators pre-rules (a result already there is passed to the continuation
  before congruence is tried) and unfolds by equation (with a proof) the three definitions that can head a scrutinee. -/
theorem Res.bind_shield {r r' : Res} (k : Value → St → Res) (h : r = r') : r.bind k = r'.bind k := h ▸ rfl
theorem Res.on_shield {r r' : Res} (kv kr : Value → St → Res) (h : r = r') : r.on kv kr = r'.on kv kr := h ▸ rfl
theorem Res.mapSt_shield {r r' : Res} (f : St → St) (h : r = r') : r.mapSt f = r'.mapSt f := h ▸ rfl
theorem Res.loopNext_shield {r r' : Res} (next : St → Res) (h : r = r') : r.loopNext next = r'.loopNext next :=
  h ▸ rfl
theorem orStuck_shield {α : Type} (m : String) {o o' : Option α} (k : α → Res) (h : o = o') :
    orStuck m o k = orStuck m o' k := h ▸ rfl
theorem orPanic_shield {α : Type} {o o' : Option α} (k : α → Res) (h : o = o') : orPanic o k = orPanic o' k :=
  h ▸ rfl
theorem firstRule_shield {o o' : Option Res} (b : Res) (h : o = o') : firstRule o b = firstRule o' b := h ▸ rfl

section
variable {k kv kr : Value → St → Res}

@[rs_eval] theorem Res.bind_val (v st) : (Res.val v st).bind k = k v st := rfl
@[rs_eval] theorem Res.bind_ret (v st) : (Res.ret v st).bind k = .ret v st := rfl
@[rs_eval] theorem Res.bind_panic : Res.panic.bind k = .panic := rfl
@[rs_eval] theorem Res.bind_stuck (m) : (Res.stuck m).bind k = .stuck m := rfl
@[rs_eval] theorem Res.bind_ite (c : Prop) [Decidable c] (a b : Res) :
    (if c then a else b).bind k = if c then a.bind k else b.bind k := by split <;> rfl
@[rs_eval] theorem Res.bind_orPanic {α} (o : Option α) (f : α → Res) :
    (orPanic o f).bind k = orPanic o fun a => (f a).bind k := by cases o <;> rfl

@[rs_eval] theorem Res.bind_brk (v st) : (Res.brk v st).bind k = .brk v st := rfl
@[rs_eval] theorem Res.bind_cont (st) : (Res.cont st).bind k = .cont st := rfl

@[rs_eval] theorem Res.on_val (v st) : (Res.val v st).on kv kr = kv v st := rfl
@[rs_eval] theorem Res.on_ret (v st) : (Res.ret v st).on kv kr = kr v st := rfl
@[rs_eval] theorem Res.on_panic : Res.panic.on kv kr = .panic := rfl
@[rs_eval] theorem Res.on_stuck (m) : (Res.stuck m).on kv kr = .stuck m := rfl
@[rs_eval] theorem Res.on_brk (v st) : (Res.brk v st).on kv kr = .stuck "break outside of a loop" := rfl
@[rs_eval] theorem Res.on_cont (st) : (Res.cont st).on kv kr = .stuck "continue outside of a loop" := rfl
@[rs_eval] theorem Res.on_ite (c : Prop) [Decidable c] (a b : Res) :
    (if c then a else b).on kv kr = if c then a.on kv kr else b.on kv kr := by split <;> rfl
@[rs_eval] theorem Res.on_orPanic {α} (o : Option α) (f : α → Res) :
    (orPanic o f).on kv kr = orPanic o fun a => (f a).on kv kr := by cases o <;> rfl
end

section
variable {f : St → St} {next : St → Res}
@[rs_eval] theorem Res.mapSt_val (v st) : (Res.val v st).mapSt f = .val v (f st) := rfl
@[rs_eval] theorem Res.mapSt_ret (v st) : (Res.ret v st).mapSt f = .ret v (f st) := rfl
@[rs_eval] theorem Res.mapSt_brk (v st) : (Res.brk v st).mapSt f = .brk v (f st) := rfl
@[rs_eval] theorem Res.mapSt_cont (st) : (Res.cont st).mapSt f = .cont (f st) := rfl
@[rs_eval] theorem Res.mapSt_panic : Res.panic.mapSt f = .panic := rfl
@[rs_eval] theorem Res.mapSt_stuck (m) : (Res.stuck m).mapSt f = .stuck m := rfl
@[rs_eval] theorem Res.mapSt_ite (c : Prop) [Decidable c] (a b : Res) :
    (if c then a else b).mapSt f = if c then a.mapSt f else b.mapSt f := by split <;> rfl
@[rs_eval] theorem Res.mapSt_orPanic {α} (o : Option α) (g : α → Res) :
    (orPanic o g).mapSt f = orPanic o fun a => (g a).mapSt f := by cases o <;> rfl

@[rs_eval] theorem Res.loopNext_val (v st) : (Res.val v st).loopNext next = next st := rfl
@[rs_eval] theorem Res.loopNext_cont (st) : (Res.cont st).loopNext next = next st := rfl
@[rs_eval] theorem Res.loopNext_brk (v st) : (Res.brk v st).loopNext next = .val v st := rfl
@[rs_eval] theorem Res.loopNext_ret (v st) : (Res.ret v st).loopNext next = .ret v st := rfl
@[rs_eval] theorem Res.loopNext_panic : Res.panic.loopNext next = .panic := rfl
@[rs_eval] theorem Res.loopNext_stuck (m) : (Res.stuck m).loopNext next = .stuck m := rfl
@[rs_eval] theorem Res.loopNext_ite (c : Prop) [Decidable c] (a b : Res) :
    (if c then a else b).loopNext next = if c then a.loopNext next else b.loopNext next := by split <;> rfl
@[rs_eval] theorem Res.loopNext_orPanic {α} (o : Option α) (g : α → Res) :
    (orPanic o g).loopNext next = orPanic o fun a => (g a).loopNext next := by cases o <;> rfl
end

@[rs_eval] theorem firstRule_some (r b) : firstRule (some r) b = r := rfl
@[rs_eval] theorem firstRule_none (b) : firstRule none b = b := rfl

/-- without a fallback type nothing is retyped -/
@[rs_eval] theorem litFallback_none (a b : Value) : litFallback none a b = (a, b) := by
  unfold litFallback; split <;> simp_all
@[rs_eval] theorem litFallback_some (t : IntTy) (x y : Int) :
    litFallback (some t) (.int .infer x) (.int .infer y) = (.int t x, .int t y) := rfl

/-! the empty dictionary -/
@[rs_eval] theorem Ext.none_call (w n a st) : Ext.none.call w n a st = Option.none := rfl
@[rs_eval] theorem Ext.none_method (w v n a st) : Ext.none.method w v n a st = Option.none := rfl
@[rs_eval] theorem Ext.none_path (n) : Ext.none.path n = Option.none := rfl
@[rs_eval] theorem Ext.none_macroCall (w n a st) : Ext.none.macroCall w n a st = Option.none := rfl
@[rs_eval] theorem Ext.none_deref (w v st) : Ext.none.deref w v st = Option.none := rfl
@[rs_eval] theorem Ext.none_fieldOf (v n) : Ext.none.fieldOf v n = Option.none := rfl
@[rs_eval] theorem Ext.none_cast (w t v st) : Ext.none.cast w t v st = Option.none := rfl
@[rs_eval] theorem Ext.none_litFallback : Ext.none.litFallback = Option.none := rfl
@[rs_eval] theorem Ext.none_errFrom (r v) : Ext.none.errFrom r v = Option.none := rfl
@[rs_eval] theorem Ext.none_letPtr (t v) : Ext.none.letPtr t v = Option.none := rfl
@[rs_eval] theorem Ext.none_refMut (w v st) : Ext.none.refMut w v st = Option.none := rfl

@[rs_eval] theorem orStuck_some {α} (m) (a : α) (k : α → Res) : orStuck m (some a) k = k a := rfl
@[rs_eval] theorem orStuck_none {α} (m) (k : α → Res) : orStuck m none k = .stuck m := rfl
@[rs_eval] theorem orPanic_some {α} (a : α) (k : α → Res) : orPanic (some a) k = k a := rfl
@[rs_eval] theorem orPanic_none {α} (k : α → Res) : orPanic none k = .panic := rfl

namespace CallByValue
attribute [scoped congr] Res.bind_shield Res.on_shield Res.mapSt_shield Res.loopNext_shield orStuck_shield orPanic_shield
  firstRule_shield
attribute [scoped rs_eval ↓] Res.bind_val Res.bind_ret Res.bind_panic Res.bind_stuck Res.bind_ite Res.bind_orPanic
  Res.bind_brk Res.bind_cont Res.on_val Res.on_ret Res.on_panic Res.on_stuck Res.on_brk Res.on_cont Res.on_ite
  Res.on_orPanic Res.mapSt_val Res.mapSt_ret Res.mapSt_brk Res.mapSt_cont Res.mapSt_panic Res.mapSt_stuck Res.mapSt_ite
  Res.mapSt_orPanic Res.loopNext_val Res.loopNext_cont Res.loopNext_brk Res.loopNext_ret Res.loopNext_panic
  Res.loopNext_stuck Res.loopNext_ite Res.loopNext_orPanic firstRule_some firstRule_none orStuck_some orStuck_none
  orPanic_some orPanic_none runMacro.eq_1 Res.popTo.eq_1 mkStruct.eq_1
end CallByValue

@[rs_eval] theorem Res.outcome_ite (c : Prop) [Decidable c] (a b : Res) :
    (if c then a else b).outcome = if c then a.outcome else b.outcome := by split <;> rfl

/-- `Res.outcome` of a checked operation -/
def orPanicO {α : Type} (o : Option α) (k : α → Outcome) : Outcome :=
  match o with
  | none => .panic
  | some a => k a

@[rs_eval] theorem Res.outcome_orPanic {α} (o : Option α) (f : α → Res) :
    (orPanic o f).outcome = orPanicO o fun a => (f a).outcome := by cases o <;> rfl
@[rs_eval] theorem orPanicO_some {α} (a : α) (k : α → Outcome) : orPanicO (some a) k = k a := rfl
@[rs_eval] theorem orPanicO_none {α} (k : α → Outcome) : orPanicO none k = .panic := rfl

/-! ### the rules added to the core with the theorem groups (blocks `[shm]`, `[poller]`, `[errors]`, `[threads]` of `Rs/Interp.lean`) -/
rs_register_eqns intListEq tupleFieldName letValue
rs_register_eqns SelfKind.hasRecv traitImplCands traitImplDecl derefArgs writeBackArgs hasMutRefParam
rs_register_eqns enumFromKeys fnPathArg fnPathParams fnPathArgs
rs_register_eqns memStr useGlobEnum globVariant globPath retHasErr tryFromDecl typedInit typedFields fieldTyOf
rs_register_eqns evalEach listPush captureArgs filterBy
attribute [rs_eval] tableTys

-- the equation lemmas of `callDeclRef` are generated HERE, in a common ancestor (two groups that each generated them on
-- demand could not be imported together), and NOT added to `rs_eval` (they unfold a call by reference inside
-- continuations, which is expensive): a proof that needs them says `simp [callDeclRef]`
open Lean Meta Elab Command in
elab "rs_realize_eqns_core " ids:ident+ : command => do
  for id in ids do
    let declName ← liftCoreM <| realizeGlobalConstNoOverloadWithInfo id
    let _ ← liftTermElabM <| getEqnsFor? declName
rs_realize_eqns_core callDeclRef

/-! The library has no method on a struct value or on an object of a dictionary.  Tried first, these replace the last
  equation of `primMethod`, `primMethod2` and `closureMethod`, which has one hypothesis per earlier rule (each a comparison
  of the method name that the kernel re-checks). -/
@[rs_eval high] theorem primMethod_struct (ctx : Ctx) (n : String) (fs : List (String × Value)) (m : String)
    (a : List Value) (st : St) : primMethod ctx (.struct n fs) m a st = none := by
  unfold primMethod primMethod2
  rfl
@[rs_eval high] theorem primMethod_ext (ctx : Ctx) (t : String) (l : List Value) (m : String) (a : List Value) (st : St) :
    primMethod ctx (.ext t l) m a st = none := by
  unfold primMethod primMethod2
  rfl
@[rs_eval high] theorem closureMethod_struct (n : String) (fs : List (String × Value)) (m : String) :
    closureMethod (.struct n fs) m = none := by
  unfold closureMethod
  rfl
@[rs_eval high] theorem closureMethod_ext (t : String) (l : List Value) (m : String) : closureMethod (.ext t l) m = none := by
  unfold closureMethod
  rfl

/-- a bare variant in the scope of a `use E::*;` (`globPath`): its path is a concatenation, which the simplifier
    evaluates without a proof step; as the LAST step inside the scrutinee of `orStuck` that makes the congruence rule of
    the evaluation by value compare the two strings by unfolding them (`whnf` runs out of heartbeats).  In this form
    rewrites with a proof follow (`Option.map_some`, `Option.getD_some`). -/
@[rs_eval ↓] theorem orStuck_globPath (m : String) (enums : List (String × List (String × Nat)))
    (env : List (String × Value)) (segs : List String) (k : Value → Res) :
    orStuck m (globPath enums env segs) k = ((globPath enums env segs).map k).getD (.stuck m) := by
  cases globPath enums env segs <;> rfl

/-- `run` is the call of the declaration the table has under the name, from the empty state -/
theorem run_of_call {ctx : Ctx} {name : String} {d : FnDecl} {self : Value} {args : List Value} {r : Res}
    (hd : ctx.fns.lookup name = some d) (hr : callDecl defaultFuel ctx d self args { env := [], log := [] } = r) :
    run ctx name self args = r.outcome := by
  simp [run, runFuel, hd, hr]

end ClockBound.Rs

/-
  For the translation tie of the generation protocol of `ShmWriter::write` (`Properties/CodeTieGen.lean`): the
  dictionary `Rs/DictDemo.lean` in `rs_eval`.
-/
import ClockBound.Proofs.RsLemmas
import ClockBound.Generated.Code
import ClockBound.Rs.DictDemo
namespace ClockBound.Rs.GenProof
open ClockBound ClockBound.Rs ClockBound.Generated ClockBound.Rs.DictDemo

attribute [rs_eval] DictDemo.ext DictDemo.path DictDemo.deref DictDemo.method DictDemo.call
  DictDemo.ptr DictDemo.atomicRef DictDemo.ordering DictDemo.writerValue bitInt

end ClockBound.Rs.GenProof

/-
  The ABA counter-example (C02Full): a reader stalled inside one attempt while the writer completes
  32767 updates.

  * `iter_eq` / `iter_cycle`: the generation counter under completed updates is a cycle of length
    32767 on the even values 2 … 65534;
  * `reach_writerRun`, `update_once`, `updates`: the writer alone performs any number of complete
    updates from any reachable state in which it is idle, leaving the reader untouched;
  * `reach_freshRun`: a run of the reader with fresh reads, lifted to `Reachable`;
  * `aba_execution`: the stalled-reader execution, under any annotation.
-/
import ClockBound.Model.SeqlockProg
import ClockBound.Proofs.SeqlockReader
import ClockBound.Proofs.Gen
namespace ClockBound.SLA
open ClockBound ClockBound.SL

/-! ### the generation cycle -/

/-- the generation after `k` completed updates -/
def iter (k g : Nat) : Nat := (List.range k).foldl (fun x _ => genFinish (genStart x)) g

theorem iter_succ (k g : Nat) : iter (k + 1) g = genFinish (genStart (iter k g)) := by
  unfold iter
  rw [List.range_succ, List.foldl_append]
  rfl

/-- completed updates step through the even values 2 … 65534 cyclically -/
theorem iter_eq (k g : Nat) (hg : g % 2 = 0) (h2 : 2 ≤ g) (h : g < 65536) :
    iter k g = 2 + (g - 2 + 2 * k) % 65534 := by
  induction k with
  | zero => show g = _; omega
  | succ k ih =>
    rw [iter_succ, ih, genFinish_genStart_of_even (by omega) (by omega)]
    split <;> omega

theorem iter_cycle (g : Nat) (hg : g % 2 = 0) (h2 : 2 ≤ g) (h : g < 65536) : iter 32767 g = g := by
  rw [iter_eq _ _ hg h2 h]; omega

/-! ### the writer alone -/

variable {a : Ann} {s0 : Sys} {r : Reader} {wr ret : List (List Nat)}

/-- the writer alone may take any number of steps (an idle writer's step changes nothing) -/
theorem reach_writerRun (n : Nat) : ∀ {log : Log} {w : Writer}, Reachable a s0 (.mk log w r wr ret) →
    Reachable a s0 (.mk (writerRun a n log w).1 (writerRun a n log w).2 r wr ret) := by
  induction n with
  | zero => exact fun h => h
  | succ n ih =>
    intro log w h
    apply ih
    by_cases hp : w.pc = .idle
    · have e : wStep a log w 0 = (log, w, "idle") := by unfold wStep; rw [hp]
      rw [e]; exact h
    · exact h.step (Step.wStep _ 0 hp)

theorem update_once {log : Log} {rf : Nat} {rec : List Nat} (hl : rec.length = N)
    (h : Reachable a s0 (.mk log ⟨.idle, rf⟩ r wr ret)) :
    ∃ log' rf', Reachable a s0 (.mk log' ⟨.idle, rf'⟩ r (rec :: wr) ret) ∧
      latest log' .gen = genFinish (genStart (latest log .gen)) ∧
      (List.range N).map (fun c => latest log' (.cell c)) = rec := by
  match rec, hl with
  | [a0, a1, a2, a3, a4, a5, a6], _ =>
    have h1 := reach_writerRun (3 + N + if a.wFence.isSome then 1 else 0)
      (h.step (Step.wWrite _ [a0, a1, a2, a3, a4, a5, a6] rfl rfl))
    cases hf : a.wFence <;> simp [hf, N, writerRun, wStep, List.range_succ] at h1 <;>
      exact ⟨_, _, h1, by simp [latest_storeMsg, N, List.range_succ]⟩

/-- any number of complete updates with the record `rec`, by the writer alone -/
theorem updates {rec : List Nat} (hl : rec.length = N) (k : Nat) :
    ∀ {log : Log} {rf : Nat}, Reachable a s0 (.mk log ⟨.idle, rf⟩ r wr ret) →
      ∃ log' rf', Reachable a s0 (.mk log' ⟨.idle, rf'⟩ r (List.replicate k rec ++ wr) ret) ∧
        latest log' .gen = iter k (latest log .gen) ∧
        (0 < k → (List.range N).map (fun c => latest log' (.cell c)) = rec) := by
  induction k with
  | zero => exact fun h => ⟨_, _, h, rfl, fun h => absurd h (Nat.lt_irrefl 0)⟩
  | succ k ih =>
    intro log rf h
    obtain ⟨log1, rf1, h1, hg1, -⟩ := ih h
    obtain ⟨log', rf', h', hg', hc'⟩ := update_once hl h1
    exact ⟨log', rf', h', by rw [hg', hg1, iter_succ], fun _ => hc'⟩

/-! ### the reader alone -/

/-- a run of the reader with fresh reads, while everything else stands still -/
theorem reach_freshRun {log : Log} {w : Writer} (n : Nat) :
    ∀ {r r' : Reader} {res : Option RResult}, Reachable a s0 (.mk log w r wr ret) →
      SLR.freshRun a log n (r, none) = (r', res) →
      Reachable a s0 (.mk log w r' wr ((returnedBy res).toList ++ ret)) := by
  induction n with
  | zero =>
    intro r r' res h e
    cases e
    exact h
  | succ n ih =>
    intro r r' res h e
    have h1 : Reachable a s0 (.mk log w (rStep a log r 0 0).1 wr
        ((returnedBy (rStep a log r 0 0).2.1).toList ++ ret)) := by
      by_cases hp : r.pc = .idle
      · have e : rStep a log r 0 0 = (r, none, "idle") := by unfold rStep; rw [hp]
        rw [e]; exact h
      · have := h.step (Step.rStep _ 0 0 hp)
        cases hr : returnedBy (rStep a log r 0 0).2.1 <;> simpa [hr] using this
    rw [SLR.freshRun_succ, SLR.rStep2] at e
    cases e1 : (rStep a log r 0 0).2.1 with
    | none =>
      rw [e1] at h1 e
      exact ih h1 e
    | some x =>
      rw [e1] at h1 e
      rw [SLR.freshRun_some] at e
      cases e
      exact h1

/-! ### the stalled-reader execution -/

/-- the initial block of the counter-example -/
abbrev l0 : Log := initBlock 1 4 (List.replicate N 7)
/-- the initial state of the counter-example -/
abbrev i0 : Sys := Sys.init 1 4 (List.replicate N 7)

/-- the execution: the reader copies cells 0–2 of the old record, stalls while the writer completes
    32767 updates with the record `9…9`, copies cells 3–6, re-reads the same generation and accepts;
    no choice of orderings and fences prevents it -/
theorem aba_execution (a : Ann) :
    ∃ s : Sys, Reachable a (Sys.init 1 4 (List.replicate N 7)) s ∧
      s.returned = [[7, 7, 7, 9, 9, 9, 9]] ∧
      ∀ x ∈ s.written, x = [9, 9, 9, 9, 9, 9, 9] := by
  -- phase 1: the reader starts a call and copies cells 0, 1, 2
  have p0 : Reachable a i0 (.mk l0 {} ({} : Reader).call [] []) := .step .refl (.rCall _ rfl)
  obtain ⟨r2, e2, q2, c2⟩ := SLR.fresh_start a l0 {} (fun _ _ _ => Nat.zero_le _)
    (by decide) (by decide) (by decide) (by decide)
  obtain ⟨r5, e5, -, q5⟩ := SLR.fresh_copies a l0 _ _ [3, 4, 5, 6] [1, 2] 0 r2 [] q2 (by decide) c2
  have p5 : Reachable a i0 (.mk l0 {} r5 [] []) := reach_freshRun _ (reach_freshRun _ p0 e2) e5
  -- phase 2: a writer process starts and completes 32767 updates
  have w1 : Reachable a i0 (.mk (storeMsg l0 0 .version 1 a.wVersion) ⟨.idle, 0⟩ r5 [] []) :=
    reach_writerRun 1 (p5.step (Step.wNew _ rfl))
  obtain ⟨lg, rf, w3, hg, hc⟩ := updates (rec := [9, 9, 9, 9, 9, 9, 9]) rfl 32767 w1
  rw [latest_storeMsg, if_neg (by decide), show latest l0 .gen = 4 from by decide,
    iter_cycle 4 (by decide) (by decide) (by decide)] at hg
  -- phase 3: the reader resumes, copies cells 3–6, fences and re-reads the generation
  obtain ⟨r9, e9, c9, q9⟩ := SLR.fresh_copies a lg _ _ [] [4, 5, 6] 3 r5 _ q5 (by decide)
    (MemInv.reachable w3).view.viewOk.2.2
  obtain ⟨r11, e11⟩ := SLR.fresh_recheck a lg r9 _ _ (by rw [hg]; exact q9) c9
  have p11 := reach_freshRun _ (reach_freshRun _ w3 e9) e11
  refine ⟨_, p11, ?_, ?_⟩
  · have hl0 : latest l0 (.cell 0) = 7 ∧ latest l0 (.cell 1) = 7 ∧ latest l0 (.cell 2) = 7 := by decide
    have hlg := hc (by decide)
    simp [N, List.range_succ] at hlg
    simp [returnedBy, hl0, hlg]
    decide
  · exact fun x hx => (List.mem_append.1 hx).elim List.eq_of_mem_replicate (nomatch ·)
end ClockBound.SLA

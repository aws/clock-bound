/-
  The reader machine alone: bounded runs (C18), a call with fresh reads (catch-up half of C03), and
  the consistency of reachable reader views with the log.
-/
import ClockBound.Proofs.SeqlockLog
namespace ClockBound.SLR
open ClockBound ClockBound.SL

/-! ### runs of the machine -/

theorem filter_ne_length_lt (todo : List Nat) (c : Nat) (h : c ∈ todo) :
    (todo.filter (· != c)).length < todo.length :=
  List.length_filter_lt_length_iff_exists.mpr ⟨c, h, by simp⟩

theorem afterCopy_cases (a : Ann) (g k : Nat) (got : List (Nat × Nat)) :
    afterCopy a g k got = .fence g k got ∨ afterCopy a g k got = .gen2 g k got := by
  unfold afterCopy; split <;> simp

/-- the reader goes back to `idle` only by returning a result -/
theorem rStep_none_ne_idle {a : Ann} {log : Log} {r : Reader} {pc pm : Nat} (h : r.pc ≠ .idle)
    (hn : (rStep a log r pc pm).2.1 = none) : (rStep a log r pc pm).1.pc ≠ .idle := by
  revert hn
  unfold rStep afterCopy
  cases hp : r.pc <;> grind

/-- one step of a run that stops at the first result: the fold of `C18.bounded` and `C03.freshCall` -/
def rStepF (a : Ann) (logs : Nat → Log) (picks : Nat → Nat × Nat)
    (st : Reader × Option RResult) (k : Nat) : Reader × Option RResult :=
  if st.2.isSome then st else
  let out := rStep a (logs k) st.1 (picks k).1 (picks k).2
  (out.1, out.2.1)

/-- A run returns within `mu` steps, against any logs and picks, for any measure `mu` that every step
    which does not return decreases (`hdec` is the statement of `C18.step_decreases`). -/
theorem run_bounded {a : Ann} {mu : RPc → Nat} {WF : RPc → Prop}
    (hpos : ∀ p, p ≠ .idle → WF p → 0 < mu p)
    (hdec : ∀ (log : Log) (r : Reader) (pc pm : Nat), r.pc ≠ .idle → WF r.pc →
      let out := rStep a log r pc pm
      WF out.1.pc ∧ ((out.2.1.isSome ∧ out.1.pc = .idle) ∨ (out.2.1 = none ∧ mu out.1.pc < mu r.pc)))
    (logs : Nat → Log) (picks : Nat → Nat × Nat) (ks : List Nat) :
    ∀ st : Reader × Option RResult,
      st.2.isSome ∨ (st.1.pc ≠ .idle ∧ WF st.1.pc ∧ mu st.1.pc ≤ ks.length) →
      (ks.foldl (rStepF a logs picks) st).2.isSome := by
  induction ks with
  | nil =>
    rintro st (h | ⟨h1, h2, h3⟩)
    · exact h
    · exact absurd (hpos _ h1 h2) (by simpa using h3)
  | cons k ks ih =>
    intro st h
    apply ih
    unfold rStepF
    split
    · next hs => exact Or.inl hs
    · next hs =>
      obtain ⟨h1, h2, h3⟩ := h.resolve_left hs
      obtain ⟨hw, ⟨hsome, -⟩ | ⟨hnone, hlt⟩⟩ := hdec (logs k) st.1 (picks k).1 (picks k).2 h1 h2
      · exact Or.inl hsome
      · refine Or.inr ⟨rStep_none_ne_idle h1 hnone, hw, ?_⟩
        show mu (rStep _ _ _ _ _).1.pc ≤ _
        simp only [List.length_cons] at h3
        omega

/-! ### a call with fresh reads on a quiescent log (C03, second half) -/

/-- message `j` of the log is at location `x` (the same function as `SL.isLoc`) -/
def atLoc (log : Log) (x : Loc) (j : Nat) : Bool := (log[j]?.map (·.loc == x)).getD false

theorem lastBefore_isSome_of_atLoc {log : Log} {x : Loc} {i : Nat} (hi : atLoc log x i = true) :
    ∃ j, lastBefore log x log.length = some j := by
  obtain ⟨m, hm, hx⟩ := isLoc_iff.1 hi
  exact lastBefore_exists (lt_length_of_getElem? hm) hm hx

section
variable (a : Ann) (log : Log)

/-- reader step with fresh reads, keeping only what a run keeps -/
def rStep2 (r : Reader) : Reader × Option RResult :=
  ((rStep a log r 0 0).1, (rStep a log r 0 0).2.1)

/-- `n` steps with fresh reads on a log that does not change, stopping at the first result -/
def freshRun : Nat → Reader × Option RResult → Reader × Option RResult
  | 0, st => st
  | n + 1, st => freshRun n (rStepF a (fun _ => log) (fun _ => (0, 0)) st 0)

/-- the fold of `C03.freshCall` -/
theorem foldl_eq_freshRun (ks : List Nat) : ∀ st : Reader × Option RResult,
    ks.foldl (rStepF a (fun _ => log) fun _ => (0, 0)) st = freshRun a log ks.length st := by
  induction ks with
  | nil => exact fun _ => rfl
  | cons k ks ih => exact fun st => ih _

theorem freshRun_some (r : Reader) (x : RResult) (n : Nat) :
    freshRun a log n (r, some x) = (r, some x) := by
  induction n with
  | zero => rfl
  | succ n ih => exact ih

theorem freshRun_succ (r : Reader) (n : Nat) :
    freshRun a log (n + 1) (r, none) = freshRun a log n (rStep2 a log r) := rfl

theorem freshRun_add (m n : Nat) : ∀ st : Reader × Option RResult,
    freshRun a log (m + n) st = freshRun a log n (freshRun a log m st) := by
  induction m with
  | zero => intro st; rw [Nat.zero_add]; rfl
  | succ m ih => intro st; rw [Nat.add_right_comm]; exact ih _

theorem fresh_copy (r : Reader) (g k c : Nat) (rest : List Nat)
    (got : List (Nat × Nat)) (hpc : r.pc = .copy g k (c :: rest) got) (hnm : c ∉ rest)
    (hc : CohOk log r.view) :
    ∃ r', rStep2 a log r = (r', none) ∧
      r'.pc = (if rest.isEmpty then afterCopy a g k else .copy g k rest) ((c, latest log (.cell c)) :: got) ∧
      CohOk log r'.view := by
  have hf : rest.filter (· != c) = rest := List.filter_eq_self.2 fun x hx => by
    simpa using fun e : x = c => hnm (e ▸ hx)
  simp [rStep2, rStep, hpc, hf, load_fresh _ _ hc, load_cohOk _ _ _ hc]
  split <;> rfl

/-- the steps after the copy: the fence, if any, and an accepting re-check -/
theorem fresh_recheck (r : Reader) (k : Nat) (got : List (Nat × Nat))
    (hpc : r.pc = afterCopy a (latest log .gen) k got) (hc : CohOk log r.view) :
    ∃ r', freshRun a log 2 (r, none) = (r', some (.ok (assemble got))) := by
  have hc1 : ∀ o, CohOk log (fenceAcq r.view o) := fun o x j hx => by rw [fenceAcq_cohOf]; exact hc x j hx
  unfold afterCopy at hpc
  cases hf : a.rFence <;>
    simp [hf, freshRun, rStepF, rStep, hpc, load_fresh _ _ hc, load_fresh _ _ (hc1 _)]

/-- the two loads before the loop, when the call goes on to copy -/
theorem fresh_start (r : Reader) (hc : CohOk log r.view)
    (hv : latest log .version ≠ 0) (hg : latest log .gen ≠ 0) (he : latest log .gen % 2 = 0)
    (hne : r.cacheGen ≠ latest log .gen) :
    ∃ r', freshRun a log 2 (r.call, none) = (r', none) ∧
      r'.pc = .copy (latest log .gen) RETRIES (List.range N) [] ∧ CohOk log r'.view := by
  have hc1 := load_cohOk .version a.rVersion 0 hc
  simp [freshRun, rStepF, rStep, Reader.call, load_fresh _ _ hc, load_fresh _ _ hc1, hv, hg, he, Ne.symm hne,
    load_cohOk _ _ _ hc1]

/-- copying the cells `c :: pre` of the to-do list, one fresh read each -/
theorem fresh_copies (g k : Nat) (post : List Nat) :
    ∀ (pre : List Nat) (c : Nat) (r : Reader) (got : List (Nat × Nat)),
      r.pc = .copy g k (c :: pre ++ post) got → (c :: pre ++ post).Nodup → CohOk log r.view →
      ∃ r', freshRun a log (pre.length + 1) (r, none) = (r', none) ∧ CohOk log r'.view ∧
        r'.pc = (if post.isEmpty then afterCopy a g k else .copy g k post)
          (((c :: pre).map fun c => (c, latest log (.cell c))).reverse ++ got) := by
  intro pre
  induction pre with
  | nil =>
    intro c r got hpc hnd hc
    obtain ⟨r', e, p, c'⟩ := fresh_copy a log r g k c post got hpc (List.nodup_cons.1 hnd).1 hc
    exact ⟨r', by rw [freshRun_succ, e]; rfl, c', p⟩
  | cons c' pre ih =>
    intro c r got hpc hnd hc
    obtain ⟨r1, e, p, c1⟩ := fresh_copy a log r g k c (c' :: pre ++ post) got hpc (List.nodup_cons.1 hnd).1 hc
    obtain ⟨r', e', c2, p'⟩ := ih c' r1 _ p (List.nodup_cons.1 hnd).2 c1
    exact ⟨r', by rw [List.length_cons, freshRun_succ, e, e'], c2, by simpa using p'⟩

theorem assemble_copied (f : Nat → Nat) :
    assemble (((List.range N).map fun c => (c, f c)).reverse ++ []) = (List.range N).map f := by
  simp [assemble, N, List.range_succ]

theorem fresh_catches_up (r : Reader)
    (hv : latest log .version ≠ 0) (hg : latest log .gen ≠ 0) (he : latest log .gen % 2 = 0)
    (hne : r.cacheGen ≠ latest log .gen) (hview : CohOk log r.view) :
    ((List.range (N + 4)).foldl (rStepF a (fun _ => log) fun _ => (0, 0)) (r.call, none)).2 =
      some (.ok ((List.range N).map (fun c => latest log (.cell c)))) := by
  obtain ⟨r2, e2, p2, c2⟩ := fresh_start a log r hview hv hg he hne
  obtain ⟨r9, e9, c9, p9⟩ := fresh_copies a log _ _ [] [1, 2, 3, 4, 5, 6] 0 r2 [] p2 (by decide) c2
  obtain ⟨r11, e11⟩ := fresh_recheck a log r9 _ _ p9 c9
  rw [foldl_eq_freshRun, List.length_range, show N + 4 = 2 + (7 + 2) from rfl, freshRun_add, e2, freshRun_add,
    show freshRun a log 7 (r2, none) = _ from e9, show freshRun a log 2 (r9, none) = _ from e11]
  exact congrArg _ (congrArg _ (assemble_copied _))

end

/-! ### reachable views are consistent with the log -/

/-- `MemInv` in the terms of `ViewOk` -/
structure SysInv (s : Sys) : Prop where
  view : ViewOk s.log s.r.view
  cohLen : ∀ x, s.r.view.cohOf x ≤ s.log.length
  carried : ∀ m ∈ s.log, m.carried ≤ s.log.length
  relFence : s.w.relFence ≤ s.log.length

theorem sysInv_reachable {a : Ann} {ver gen : Nat} {cells : List Nat} {s : Sys}
    (hr : Reachable a (Sys.init ver gen cells) s) : SysInv s := by
  have h := MemInv.reachable hr
  refine ⟨h.view.viewOk, fun x => ?_, fun m hm => ?_, h.rel⟩
  · rcases h.view.coh x with e | ⟨m, hm, -⟩
    · rw [e]; exact Nat.zero_le _
    · exact Nat.le_of_lt (lt_length_of_getElem? hm)
  · obtain ⟨i, hi⟩ := List.getElem?_of_mem hm
    exact h.carLe i m hi

end ClockBound.SLR

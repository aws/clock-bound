/-
  What the proofs of the theorem group `Shm` share (`Proofs/RsSeqlock.lean`, `RsHeader.lean`, `RsWriterNew.lean`): the
  dictionary `Rs/DictShm.lean` in the simp set `rs_eval`, the cases of `litFallback` with a fallback type that
  `Proofs/RsEval.lean` does not list, a range lemma, and the form of a hypothesis on the input stream (`Answers`).
  Not trusted.
-/
import ClockBound.Proofs.RsLemmas
import ClockBound.Proofs.RsLoop
import ClockBound.Generated.Code
import ClockBound.Rs.EmbedShm
namespace ClockBound.Rs
open ClockBound ClockBound.Rs ClockBound.Rs.DictShm

attribute [rs_eval] DictShm.path DictShm.deref DictShm.method DictShm.call DictShm.methodA DictShm.callA
  DictShm.methodB DictShm.methodC DictShm.callC DictShm.pathC DictShm.pathAll DictShm.derefAll DictShm.derefC
  DictShm.macroC DictShm.refMutD DictShm.letPtrD DictShm.methodD DictShm.callD DictShm.pathD DictShm.fsCall DictShm.asResult DictShm.pathObj
  DictShm.fileObj DictShm.syscallErr DictShm.fieldOfC DictShm.atomicVal DictShm.addr DictShm.addrPlus DictShm.libcConst DictShm.asInt
  DictShm.ptrA16 DictShm.refA16 DictShm.ptrCeb DictShm.ordering DictShm.asU16 DictShm.asU64 bitInt

/-! the dictionary stays folded (`DictShm.ext`); its fields -/
@[rs_eval] theorem ext_call : DictShm.ext.call = DictShm.call := rfl
@[rs_eval] theorem ext_method : DictShm.ext.method = DictShm.method := rfl
@[rs_eval] theorem ext_path : DictShm.ext.path = DictShm.pathAll := rfl
@[rs_eval] theorem ext_deref : DictShm.ext.deref = DictShm.derefAll := rfl
@[rs_eval] theorem ext_litFallback : DictShm.ext.litFallback = some .i32 := rfl
@[rs_eval] theorem ext_errFrom : DictShm.ext.errFrom = Ext.none.errFrom := rfl
@[rs_eval] theorem ext_macroCall : DictShm.ext.macroCall = DictShm.macroC := rfl
@[rs_eval] theorem ext_fieldOf : DictShm.ext.fieldOf = DictShm.fieldOfC := rfl
@[rs_eval] theorem ext_cast : DictShm.ext.cast = Ext.none.cast := rfl
@[rs_eval] theorem ext_refMut : DictShm.ext.refMut = DictShm.refMutD := rfl
@[rs_eval] theorem ext_letPtr : DictShm.ext.letPtr = DictShm.letPtrD := rfl

/-- an operand of a known integer type is not retyped -/
@[rs_eval] theorem litFallback_int_l (fb : Option IntTy) (t : IntTy) (x : Int) (b : Value) (h : t ≠ .infer) :
    litFallback fb (.int t x) b = (.int t x, b) := by
  unfold litFallback; split <;> simp_all
@[rs_eval] theorem litFallback_int_r (fb : Option IntTy) (a : Value) (t : IntTy) (y : Int) (h : t ≠ .infer) :
    litFallback fb a (.int t y) = (a, .int t y) := by
  unfold litFallback; split <;> simp_all

/-- operands that are not integers are not retyped -/
@[rs_eval] theorem litFallback_list_l (fb : Option IntTy) (l : List Value) (b : Value) :
    litFallback fb (.list l) b = (.list l, b) := by unfold litFallback; split <;> simp_all
@[rs_eval] theorem litFallback_enumv_l (fb : Option IntTy) (p : String) (l : List Value) (b : Value) :
    litFallback fb (.enumv p l) b = (.enumv p l, b) := by unfold litFallback; split <;> simp_all
@[rs_eval] theorem litFallback_ext_l (fb : Option IntTy) (p : String) (l : List Value) (b : Value) :
    litFallback fb (.ext p l) b = (.ext p l, b) := by unfold litFallback; split <;> simp_all
@[rs_eval] theorem litFallback_bool_l (fb : Option IntTy) (x : Bool) (b : Value) :
    litFallback fb (.bool x) b = (.bool x, b) := by unfold litFallback; split <;> simp_all

/-- a natural number up to `i32::MAX` (a file descriptor, a retry counter) as an `i32` -/
theorem i32_range {n : Nat} (h : n ≤ 2147483647) : IntTy.i32.lo ≤ (n : Int) ∧ (n : Int) ≤ IntTy.i32.hi := by
  simp only [rs_eval]
  omega

/-- the input stream gives the answers `A` from position `p` on (the form of every hypothesis on the stream: a proof
    unfolds it on the list at hand and has one equation per answer) -/
def Answers (inp : Nat → Value) : Nat → List Value → Prop
  | _, [] => True
  | p, a :: A => inp p = a ∧ Answers inp (p + 1) A

theorem answers_append (inp : Nat → Value) (p : Nat) (A B : List Value) :
    Answers inp p (A ++ B) ↔ Answers inp p A ∧ Answers inp (p + A.length) B := by
  induction A generalizing p with
  | nil => simp [Answers]
  | cons a A ih => simp [Answers, ih, and_assoc, Nat.add_assoc, Nat.add_comm 1]

theorem answers_streamOf (A : List Value) : Answers (EmbedShm.streamOf A) 0 A := by
  suffices h : ∀ P B, Answers (EmbedShm.streamOf (P ++ B)) P.length B from h [] A
  intro P B
  induction B generalizing P with
  | nil => trivial
  | cons a B ih => exact ⟨by simp [EmbedShm.streamOf], by simpa using ih (P ++ [a])⟩

end ClockBound.Rs

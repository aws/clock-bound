/-
  The writer's loop (`shm_writer::process_messages`) for every updater state, fuel and caller state, on `callDecl`,
  in the context `writerCtx`: the generated tables with `ShmWriter::new` and the two `ShmUpdater::process_*` methods
  taken OUT of the function table, so that they are abstract operations of the dictionary (tied elsewhere:
  `CodeTieUpdater`; the segment creation is group `Shm`'s).  Everything else is the regenerated code.
  Two stages.  `writer_trips`: the loop of ANY program text `while c { body }` whose body behaves as "receive one
  message and handle it", from its first trip to the start of its last.  `writer_loop_tie`: the function is
  evaluated up to its loop and the loop handed to `writer_trips`, which asks for two facts about the text, each
  shown ONCE by evaluation (the condition; the body, for every shape of what was received, with the outcome `done`
  of the handler left open); then the last trip (Abort) and the way out of the loop are evaluated.
  At the end: what the statement about the entry function `shm_writer::run` speaks of.
-/
import ClockBound.Proofs.RsWorkersBase
namespace ClockBound.Rs.ThreadsProof
open ClockBound ClockBound.Rs ClockBound.Generated ClockBound.Rs.DictThreads ClockBound.Rs.EmbedThreads
open ClockBound.Rs.EmbedWorkers ClockBound.Threads

/-- the functions the writer theorems treat as operations of the environment -/
def abstracted : List String :=
  ["ShmWriter::new", "ShmUpdater::process_clock_update", "ShmUpdater::process_missing_clock_update"]

def writerFns : List (String × FnDecl) := Code.fns.filter fun p => !abstracted.contains p.1

/-- the generated context with the dictionary `DictThreads.ext`, minus the abstracted functions -/
def writerCtx (nowNs : Int) (inp : Nat → Value) : Ctx :=
  { Code.ctxWith nowNs DictThreads.ext [] inp with fns := writerFns }

@[rs_eval] theorem writerCtx_fns (n i) : (writerCtx n i).fns = writerFns := rfl
@[rs_eval] theorem writerCtx_consts (n i) : (writerCtx n i).consts = Code.consts := rfl
@[rs_eval] theorem writerCtx_constTypes (n i) : (writerCtx n i).constTypes = Code.constTypes := rfl
@[rs_eval] theorem writerCtx_structs (n i) : (writerCtx n i).structs = Code.structs := rfl
@[rs_eval] theorem writerCtx_enums (n i) : (writerCtx n i).enums = Code.enums := rfl
@[rs_eval] theorem writerCtx_nowNs (n i) : (writerCtx n i).nowNs = n := rfl
@[rs_eval] theorem writerCtx_enumDiscr (n i) : (writerCtx n i).enumDiscr = Code.enumDiscr := rfl
@[rs_eval] theorem writerCtx_sizes (n i) : (writerCtx n i).sizes = [] := rfl
@[rs_eval] theorem writerCtx_inp (n i) : (writerCtx n i).inp = i := rfl
@[rs_eval] theorem writerCtx_ext (n i) : (writerCtx n i).ext = DictThreads.ext := rfl

attribute [rs_eval] abstracted

/-- a function of the generated table is in the writer's table unless it is abstracted -/
@[rs_eval] theorem writerFns_lookup (k : String) :
    writerFns.lookup k = if abstracted.contains k then none else Code.fns.lookup k :=
  lookup_filter_keys abstracted Code.fns k

/-- ... and no impl block left in the writer's table provides the two abstracted methods (the core's trait-impl
    fallback of `methodDecl`, `traitImplCands`, searches the table by self type and method name) -/
@[rs_eval] theorem writerFns_cands_update :
    traitImplCands writerFns "ShmUpdater" "process_clock_update" = [] := by
  simp only [writerFns, rs_code, rs_eval, rs_base]

@[rs_eval] theorem writerFns_cands_missing :
    traitImplCands writerFns "ShmUpdater" "process_missing_clock_update" = [] := by
  simp only [writerFns, rs_code, rs_eval, rs_base]

theorem value_notice (m : RMsg) (h : m.isNotice = true) :
    ∃ name c, m.value = .enumv name [c] ∧ (name = "Message::ThreadTerminate" ∨ name = "Message::ThreadPanic") := by
  cases m with
  | terminate c => exact ⟨_, _, rfl, Or.inl rfl⟩
  | panic c => exact ⟨_, _, rfl, Or.inr rfl⟩
  | _ => simp [RMsg.isNotice] at h

open scoped ClockBound.Rs.CallByValue

/-- `k` messages handled, then the last trip: a handler that does not complete panics; otherwise what is left is
    the body on the last message received (Abort), and the loop after it -/
theorem writer_trips {ctx : Ctx} {fr : Frame} {c : Expr} {body : List Stmt} (env : List (String × Value)) (d0 : Nat)
    (hc : ∀ log pos N, d0 ≤ N → eval N ctx fr c ⟨env, log, pos⟩ = .val (.bool true) ⟨env, log, pos⟩)
    (hstep : ∀ (s : WStep) log pos N, d0 ≤ N → inputsAt ctx.inp pos s.inputs → s.wellFormed = true →
      ∀ next : St → Res, ((evalBlock N ctx fr body ⟨env, log, pos⟩).popTo env.length).loopNext next
        = if s.done = true then next ⟨env, log ++ s.events, pos + s.inputs.length⟩ else .panic)
    (k : Nat) (ws : Nat → WStep) (hdone : ∀ i, i < k → (ws i).done = true)
    (hwf : ∀ i, i < k → (ws i).wellFormed = true) (e : WEnd) (he : ∀ s, e = .handlerPanic s → s.done = false)
    (log : List Value) (pos : Nat) (hits : ∀ i, i < k → inputsAt ctx.inp (pos + winputsBefore ws i) (ws i).inputs)
    (hend : inputsAt ctx.inp (pos + winputsBefore ws k) e.inputs) (N : Nat) (hN : d0 ≤ N) :
    evalWhile (N + 1 + k) ctx fr c body ⟨env, log, pos⟩
    = match (generalizing := false) e with
      | .handlerPanic _ => .panic
      | .abort =>
        ((evalBlock N ctx fr body ⟨env, log ++ weventsBefore ws k, pos + winputsBefore ws k⟩).popTo env.length).loopNext
          fun st => evalWhile N ctx fr c body st := by
  rw [evalWhile_skip (d := d0) (k := k) (P := winputsBefore ws) (E := weventsBefore ws) ⟨env, log, pos⟩ rfl rfl
    (fun i _ M hM => hc _ _ M hM) ?hb (N + 1) (by omega)]
  case hb =>
    intro i hi M hM next
    rw [hstep (ws i) _ _ M hM (hits i hi) (hwf i hi), if_pos (hdone i hi)]
    simp [weventsBefore, winputsBefore, Nat.add_assoc]
  rw [evalWhile_true (h := hc _ _ _ hN)]
  cases e with
  | abort => rfl
  | handlerPanic s =>
    have hd := he s rfl
    have hw : s.wellFormed = true := by cases s <;> simp_all [WStep.done, WStep.wellFormed]
    rw [hstep s _ _ N hN hend hw, if_neg (by simp [hd])]

theorem writer_loop_tie (ks : List Thread) (u : Updater) (k : Nat) (ws : Nat → WStep)
    (hdone : ∀ i, i < k → (ws i).done = true) (hwf : ∀ i, i < k → (ws i).wellFormed = true)
    (e : WEnd) (he : ∀ s, e = .handlerPanic s → s.done = false)
    (nowNs : Int) (inp : Nat → Value) (env : List (String × Value)) (log : List Value) (pos : Nat)
    (hin : inputsAt inp pos (wloopInputs k ws e)) (N : Nat) (hN : k + 100 ≤ N) :
    callDecl N (writerCtx nowNs inp) Code.fn_shm_writer__process_messages .unit
      [contextValue .writer ks, updaterValue u] ⟨env, log, pos⟩
    = match e with
      | .abort => .val (.tuple [.unit, .unit]) ⟨env, log ++ wloopEvents k ws, pos + (winputsBefore ws k + 1)⟩
      | .handlerPanic _ => .panic := by
  obtain ⟨F, rfl⟩ : ∃ F, N = F + k + 100 := ⟨N - k - 100, by omega⟩
  obtain ⟨hits, hend⟩ := inputsAt_chunks inp pos (fun i => (ws i).inputs) (winputsBefore ws) rfl (fun i => rfl) k
    e.inputs hin
  simp -implicitDefEqProofs only [rs_eval, rs_base, rs_code, contextValue, dispatchValue, allChans, updaterValue]
  rw [Nat.add_right_comm F k]
  rw [writer_trips _ 60 ?hc ?hstep k ws hdone hwf e he log pos hits hend _ (by omega)]
  case hc =>
    intro log pos N hN
    obtain ⟨M, rfl⟩ := Nat.exists_eq_add_of_le' hN
    simp -implicitDefEqProofs only [rs_eval, rs_base, rs_code]
  case hstep =>
    intro s log pos N hN hs hw next
    obtain ⟨M, rfl⟩ := Nat.exists_eq_add_of_le' hN
    cases s with
    | data t p a dn =>
      simp only [writerCtx_inp, WStep.inputs, WStep.recv, inputsAt, and_true] at hs
      simp -implicitDefEqProofs only [rs_eval, rs_base, rs_code, hs, WStep.events, WStep.inputs, WStep.recv, WStep.done,
        Nat.add_assoc]
    | noData n dn =>
      simp only [writerCtx_inp, WStep.inputs, WStep.recv, inputsAt, and_true] at hs
      cases n <;> simp only [NoData.name] at hs <;>
        simp -implicitDefEqProofs only [rs_eval, rs_base, rs_code, hs, WStep.events, WStep.inputs, WStep.recv, WStep.done,
          NoData.name, NoData.grace, Nat.add_assoc]
    | notice m =>
      obtain ⟨name, c, hv, hn⟩ := value_notice m hw
      simp only [writerCtx_inp, WStep.inputs, WStep.recv, hv, inputsAt, and_true] at hs
      rcases hn with rfl | rfl <;>
        simp -implicitDefEqProofs only [rs_eval, rs_base, rs_code, hs, hv, WStep.events, WStep.inputs, WStep.recv, WStep.done]
    | disconnected =>
      simp only [writerCtx_inp, WStep.inputs, WStep.recv, inputsAt, and_true] at hs
      simp -implicitDefEqProofs only [rs_eval, rs_base, rs_code, hs, WStep.events, WStep.inputs, WStep.recv, WStep.done]
  cases e with
  | abort =>
    simp only [WEnd.inputs, Recv.value, RMsg.value, inputsAt, and_true] at hend
    simp -implicitDefEqProofs only [rs_eval, rs_base, rs_code, hend]
    -- a flag-controlled `while` goes round once more and finds its condition false; a `loop` has left by `break`
    try rw [evalWhile_succ]
    simp -implicitDefEqProofs only [rs_eval, rs_base, rs_code, wloopEvents, Recv.value, RMsg.value,
      Nat.add_assoc]
  | handlerPanic s => simp only [rs_eval, rs_base, rs_code]

/-- the call of the loop function under a name `simp` does not unfold (as `bcastCall` in `RsThreadsMain.lean`) -/
def wloopCall (N : Nat) (ctx : Ctx) (s : Value) (a : List Value) (st : St) : Res :=
  callDecl N ctx Code.fn_shm_writer__process_messages s a st

theorem wloopCall_wrap (N : Nat) (ctx : Ctx) (s : Value) (a : List Value) (st : St) :
    callDecl N ctx Code.fn_shm_writer__process_messages s a st = wloopCall N ctx s a st := rfl

theorem ascribe_contextValue' (ty : String) (c : Thread) (ks : List Thread) :
    ascribe ty (contextValue c ks) = some (contextValue c ks) := rfl

/-- the segment path handed to `ShmWriter::new` -/
def shmPathValue : Value := .ext "Path" [.str "/var/run/clockbound/shm"]

def writerOutcome (e : WEnd) (log : List Value) : Rs.Outcome :=
  match e with
  | .abort => .ok .unit .unit log
  | .handlerPanic _ => .panic

end ClockBound.Rs.ThreadsProof

/-
  `Drop for Context::drop`: the notice a dying thread sends (`noticeOf`, part of the statement of
  `CodeTieThreads.drop_eq`); the tie itself is `drop_tie` in `RsThreadsDrop.lean`.  `DropStmt` and `drop_tie_tac` state and
  run the same evaluation for one thread id with every input split into its cases.
-/
import ClockBound.Proofs.RsThreadsBase
namespace ClockBound.Rs.ThreadsProof
open ClockBound ClockBound.Rs ClockBound.Generated ClockBound.Rs.DictThreads ClockBound.Rs.EmbedThreads
open ClockBound.Threads

/-- the notice a dying thread with id `c` sends: `ThreadPanic(c)` if it is unwinding, else `ThreadTerminate(c)` -/
def noticeOf (c : Thread) (panicking : Bool) : RMsg := if panicking = true then .panic c else .terminate c

/-- what `drop_eq` says, for one id -/
def DropStmt (c : Thread) : Prop :=
  ∀ (ks : List Thread) (p ok : Bool) (nowNs : Int) (inp : Nat → Value),
    inp 0 = .bool p → inp 1 = sendResult ok (noticeOf c p).value →
    run (Code.ctxWith nowNs DictThreads.ext [] inp) "Drop for Context::drop" (contextValue c ks) []
    = .ok .unit (contextValue c ks)
        [evPanicking (.bool p),
         evSend (chanValue .main) (noticeOf c p).value (sendResult ok (noticeOf c p).value)]

macro "drop_tie_tac" : tactic => `(tactic| (
  intro ks p ok nowNs inp h0 h1
  cases p <;> cases ok <;>
    simp only [noticeOf, sendResult, RMsg.value, Bool.false_eq_true, if_false, if_true] at h1 ⊢ <;>
    simp [rs_eval, rs_code, contextValue, dispatchValue, allChans, h0, h1]))

end ClockBound.Rs.ThreadsProof

/-
  The nix `TimeSpec` mirror collapses to exact nanosecond arithmetic on the values nix itself
  builds (`Valid`: normalised and within `±TS_MAX_SECONDS`): `nanoseconds`, `add` and `sub` return
  `TimeSpec.ofNs` (Model/World.lean) of the exact result.
-/
import ClockBound.Model.World
namespace ClockBound

/-! ### `TimeSpec.ofNs` -/

theorem ofNs_toNs (n : Int) : (TimeSpec.ofNs n).toNs = n := by
  unfold TimeSpec.ofNs TimeSpec.toNs NANOS; simp only []; omega

theorem ofNs_normalized (n : Int) : (TimeSpec.ofNs n).normalized := by
  unfold TimeSpec.ofNs TimeSpec.normalized NANOS; simp only []; omega

theorem ofNs_sec (n : Int) : (TimeSpec.ofNs n).sec = n / 1000000000 := rfl
theorem ofNs_nsec (n : Int) : (TimeSpec.ofNs n).nsec = n % 1000000000 := rfl

theorem ofNs_inRange {n : Int} (h0 : 0 ≤ n) (h1 : n < 2147483648000000000) :
    (TimeSpec.ofNs n).inRange = true := by
  unfold TimeSpec.inRange TimeSpec.ofNs NANOS
  simp only [decide_eq_true_eq]
  omega

namespace TimeSpec

theorem chk_some {x : Int} (h : -9223372036854775808 ≤ x ∧ x ≤ 9223372036854775807) :
    chk x = some x := by
  simp [chk, inI64, I64_MIN, I64_MAX, h]

theorem chk_eq_some {x y : Int} (h : chk x = some y) : y = x ∧ I64_MIN ≤ x ∧ x ≤ I64_MAX := by
  simp only [chk, inI64, Option.ite_none_right_eq_some, decide_eq_true_eq, Option.some.injEq] at h
  exact ⟨h.2.symm, h.1⟩

theorem lt_iff {a b : TimeSpec} (ha : a.normalized) (hb : b.normalized) :
    a.lt b = true ↔ a.toNs < b.toNs := by
  unfold lt toNs normalized NANOS at *
  split <;> simp <;> omega

theorem le_iff {a b : TimeSpec} (ha : a.normalized) (hb : b.normalized) :
    a.le b = true ↔ a.toNs ≤ b.toNs := by
  unfold le toNs normalized NANOS at *
  split <;> simp <;> omega

/-- `num_nanoseconds` is exact whenever the value itself fits an `i64` (normalised input): every
    intermediate result lies between the value and zero. -/
theorem numNanoseconds_of_toNs {t : TimeSpec} (hn : t.normalized)
    (h1 : -9223372036854775808 ≤ t.toNs) (h2 : t.toNs ≤ 9223372036854775807) :
    t.numNanoseconds = some t.toNs := by
  unfold normalized at hn
  unfold numNanoseconds numSeconds nanosModSec
  unfold toNs NANOS at *
  split
  · simp (disch := omega) only [chk_some, Option.bind_eq_bind, Option.bind_some]
    congr 1; omega
  · simp (disch := omega) only [chk_some, Option.bind_eq_bind, Option.bind_some]

/-- seconds range in which `num_nanoseconds` cannot overflow -/
def secOk (t : TimeSpec) : Prop := -9000000000 ≤ t.sec ∧ t.sec ≤ 9000000000

theorem numNanoseconds_eq {t : TimeSpec} (hn : t.normalized) (hs : t.secOk) :
    t.numNanoseconds = some t.toNs := by
  unfold secOk at hs
  have hn' := hn
  unfold normalized NANOS at hn'
  exact numNanoseconds_of_toNs hn (by unfold toNs NANOS; omega) (by unfold toNs NANOS; omega)

/-- What nix guarantees of every `TimeSpec` it builds (the assertion in `TimeSpec::nanoseconds`):
    normalised and within `±TS_MAX_SECONDS`. -/
def Valid (t : TimeSpec) : Prop :=
  t.normalized ∧ -9223372035000000000 ≤ t.toNs ∧ t.toNs ≤ 9223372035999999999

theorem Valid.numNanoseconds {t : TimeSpec} (h : t.Valid) : t.numNanoseconds = some t.toNs := by
  obtain ⟨hn, h1, h2⟩ := h
  exact numNanoseconds_of_toNs hn (by omega) (by omega)

theorem Valid.ofNs {n : Int} (h : -9223372035000000000 ≤ n ∧ n ≤ 9223372035999999999) :
    (ofNs n).Valid :=
  ⟨ofNs_normalized n, by rwa [ofNs_toNs]⟩

theorem nanoseconds_eq {n : Int} (h : -9223372035000000000 ≤ n ∧ n ≤ 9223372035999999999) :
    nanoseconds n = some (ofNs n) := by
  unfold nanoseconds TS_MAX_SECONDS NANOS
  exact if_pos (by omega)

theorem nanoseconds_none_iff {n : Int} :
    nanoseconds n = none ↔ ¬ (-9223372035000000000 ≤ n ∧ n ≤ 9223372035999999999) := by
  unfold nanoseconds TS_MAX_SECONDS NANOS
  simp only []
  split <;> simp <;> omega

/-- the common tail of nix `Add` and `Sub`: a checked `i64` result, back to a `TimeSpec` -/
theorem chk_nanoseconds {n : Int} (h : -9223372035000000000 ≤ n ∧ n ≤ 9223372035999999999) :
    (chk n).bind nanoseconds = some (ofNs n) := by
  rw [chk_some (by omega)]
  exact nanoseconds_eq h

/-- `a + b` is exact when the sum is inside nix's range. -/
theorem add_eq {a b : TimeSpec} (ha : a.Valid) (hb : b.Valid)
    (h : -9223372035000000000 ≤ a.toNs + b.toNs ∧ a.toNs + b.toNs ≤ 9223372035999999999) :
    a.add b = some (ofNs (a.toNs + b.toNs)) := by
  unfold add
  rw [ha.numNanoseconds, hb.numNanoseconds]
  exact chk_nanoseconds h

/-- `a - b` is exact when the difference is inside nix's range. -/
theorem sub_eq {a b : TimeSpec} (ha : a.Valid) (hb : b.Valid)
    (h : -9223372035000000000 ≤ a.toNs - b.toNs ∧ a.toNs - b.toNs ≤ 9223372035999999999) :
    a.sub b = some (ofNs (a.toNs - b.toNs)) := by
  unfold sub
  rw [ha.numNanoseconds, hb.numNanoseconds]
  exact chk_nanoseconds h

end TimeSpec
end ClockBound

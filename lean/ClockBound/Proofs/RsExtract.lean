/-
  Proof of the translation tie for `extract_bound_from_tracking` (statement in
  `Properties/CodeTieExtract.lean`): evaluation as in `Proofs/RsClient.lean`; the equation about the call is what
  `ShmUpdater::process_clock_update` uses (`Proofs/RsUpdater.lean`).
-/
import ClockBound.Proofs.RsCall
namespace ClockBound.Rs.ExtractProof
open ClockBound ClockBound.Rs ClockBound.Generated

open scoped ClockBound.Rs.CallByValue

theorem call_extract (t : Tracking) (nowNs : Int) (ext : Ext) (sizes : List (String × Nat)) (inp : Nat → Value)
    (hext : ext.Conservative) (N : Nat) (st : St) :
    callDecl (N + 40) (Code.ctxWith nowNs ext sizes inp) Code.fn_shm_writer__extract_bound_from_tracking .unit
      [trackingValue t] st
    = .val (.tuple [.tuple [.int .i64 (boundF t), chronyValue (classify t nowNs)], .unit]) st := by
  obtain ⟨leap, refNs, offW, dispW, delayW, intervalW, refid⟩ := t
  obtain ⟨env, log, pos⟩ := st
  simp -implicitDefEqProofs only [rs_eval, rs_base, rs_code, trackingValue, hext.1, hext.2.1, hext.2.2]
  -- the tree has the tests of the model; a comparison may come in another form than the model's (`x < 3` for
  -- `x ≤ 2`): then the combinations that cannot be are arithmetic
  simp only [classify, leapClass, boundF, gt_iff_lt]
  split_ifs <;> first | rfl | omega

end ClockBound.Rs.ExtractProof

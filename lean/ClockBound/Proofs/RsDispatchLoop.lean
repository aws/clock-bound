/-
  `process_messages`: the whole loop from its top state, by induction on the list of messages, and the records in the
  model's log (for `process_messages_eq` and `records_eq`, `Properties/CodeTieDispatch.lean`).
-/
import ClockBound.Proofs.RsDispatch
namespace ClockBound.Rs.DispatchProof
open ClockBound ClockBound.Rs ClockBound.Generated ClockBound.Rs.DictPoller ClockBound.Rs.NowProof

/-- what the whole loop does: the model's `writerRun`, then the abort ends it with `()`, that log, that many inputs
    consumed, and no `self` -/
def LoopIs (r : Res) (log : List Value) (pos n : Nat) : Option (Updater × List Value) → Prop
  | none => r = .panic
  | some (_, l) =>
    ∃ st : St, r = .val .unit st ∧ st.log = log ++ l ++ [evRecv recvAbort] ∧ st.pos = pos + n + 1 ∧
      envGet st.env "self" = none

/-- a turn that logged `evs` and consumed one input in front of a loop -/
theorem LoopIs.turn {r : Res} {log evs : List Value} {pos n : Nat} {o : Option (Updater × List Value)}
    (h : LoopIs r (log ++ evs) (pos + 1) n o) : LoopIs r log pos (n + 1) (o.map fun p => (p.1, evs ++ p.2)) := by
  rcases o with _ | ⟨u, l⟩
  · exact h
  · obtain ⟨st, h1, h2, h3, h4⟩ := h
    exact ⟨st, h1, by simpa using h2, by omega, h4⟩

/-- the loop from its top state: the model's `writerRun` over the messages, then the abort -/
theorem loop (nowNs : Int) (inp : Nat → Value) (pre : List Stmt) (c : Expr) (body : List Stmt)
    (hfl : findLoop Code.fn_shm_writer__process_messages_stmts = some (pre, c, body)) :
    ∀ (ms : List WMsg) (_hwf : ∀ m ∈ ms, m.wf = true) (u : Updater) (log : List Value) (pos : Nat)
      (_hin : inputsAt inp pos (ms.map WMsg.recvd ++ [recvAbort])) (N : Nat) (_hN : ms.length + 102 ≤ N),
      LoopIs (evalWhile N (ctxP nowNs [] inp) frW c body (topW nowNs inp pre u log pos)) log pos ms.length
        (writerRun nowNs u ms) := by
  intro ms
  induction ms with
  | nil =>
    intro _ u log pos hin N hN
    obtain ⟨K, rfl⟩ : ∃ K, N = K + 2 := ⟨N - 2, by simp at hN; omega⟩
    have T := disp_abort nowNs u inp log pos pre c body hfl hin.1 K (by simp at hN; omega)
    simpa [writerRun, LoopIs, turnIs_done] using T
  | cons m ms ih =>
    intro hwf u log pos hin N hN
    obtain ⟨K, rfl⟩ : ∃ K, N = K + 2 := ⟨N - 2, by simp at hN; omega⟩
    obtain ⟨h0, hrest⟩ := hin
    have hK : ms.length + 102 ≤ K + 1 := by simp at hN; omega
    have hwf' : ∀ m' ∈ ms, m'.wf = true := fun m' hm' => hwf m' (List.mem_cons_of_mem _ hm')
    have T := disp_iter nowNs u m (hwf m (List.mem_cons_self ..)) inp log pos pre c body hfl h0 K (by omega)
    simp only [writerRun]
    -- the turn `T` goes on with the rest of the loop, from the state the induction hypothesis is about
    cases hm : m.toMsg nowNs with
    | none =>
      simp only [hm, turnIs_next] at T
      rw [T]
      exact (ih hwf' u _ _ hrest _ hK).turn
    | some msg =>
      simp only [hm] at T ⊢
      cases hs : u.step msg with
      | none =>
        simp only [hs, turnIs_panic] at T
        exact T
      | some q =>
        obtain ⟨u1, r⟩ := q
        simp only [hs, turnIs_next] at T
        rw [T]
        exact (ih hwf' u1 _ _ hrest _ hK).turn

/-- the records in the model's log are `Updater.run` over the messages the updater acts on -/
theorem writerRun_records (nowNs : Int) : ∀ (ms : List WMsg) (u u' : Updater) (l : List Value),
    writerRun nowNs u ms = some (u', l) →
    l.filter isRecordValue = (Updater.run u (ms.filterMap (WMsg.toMsg nowNs))).map recordValue := by
  intro ms
  induction ms with
  | nil =>
    intro u u' l h
    obtain ⟨-, rfl⟩ : u = u' ∧ [] = l := by simpa [writerRun] using h
    rfl
  | cons m ms ih =>
    intro u u' l h
    simp only [writerRun] at h
    cases hm : m.toMsg nowNs with
    | none =>
      simp only [hm, Option.map_eq_some_iff] at h
      obtain ⟨⟨u2, l2⟩, hw, -, rfl⟩ := h
      simp [hm, isRecordValue, evRecv, ih u u2 l2 hw]
    | some msg =>
      simp only [hm] at h
      cases hs : u.step msg with
      | none => simp [hs] at h
      | some q =>
        obtain ⟨u1, r⟩ := q
        simp only [hs, Option.map_eq_some_iff] at h
        obtain ⟨⟨u2, l2⟩, hw, -, rfl⟩ := h
        simp [hm, Updater.run, hs, isRecordValue, evRecv, recordValue, ih u1 u2 l2 hw]

end ClockBound.Rs.DispatchProof

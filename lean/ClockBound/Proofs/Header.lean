/-
  Helper lemmas for C16 / C17: reads (`slice`) and in-place stores (`patch`), little-endian
  encode/decode, `ShmReader::new` as its chain of checks, and the file that start-up and the first
  publication leave behind (`takeOver`).
-/
import ClockBound.Model.OraclesH
import ClockBound.Proofs.Gen
namespace ClockBound

/-! ### reads and stores -/

theorem getElem?_slice (bs : Bytes) (off n i : Nat) :
    (slice bs off n)[i]? = if i < n then bs[off + i]? else none := by
  unfold slice
  rw [List.getElem?_take]
  split <;> simp [List.getElem?_drop]

/-- a store replaces those bytes of its range that exist -/
theorem getElem?_patch (bs : Bytes) (off : Nat) (new : Bytes) (i : Nat) :
    (patch bs off new)[i]? =
      if off ≤ i ∧ i < off + new.length ∧ i < bs.length then new[i - off]? else bs[i]? := by
  unfold patch
  rw [List.getElem?_mapIdx]
  grind

theorem length_patch (bs : Bytes) (off : Nat) (new : Bytes) : (patch bs off new).length = bs.length := by
  unfold patch; rw [List.length_mapIdx]

theorem length_slice (bs : Bytes) (off n : Nat) (h : off + n ≤ bs.length) : (slice bs off n).length = n := by
  unfold slice; rw [List.length_take, List.length_drop]; omega

theorem slice_all (bs : Bytes) : slice bs 0 bs.length = bs := by
  unfold slice; simp

theorem slice_append_slice (bs : Bytes) (o n m : Nat) :
    slice bs o n ++ slice bs (o + n) m = slice bs o (n + m) := by
  unfold slice
  rw [List.take_add, List.drop_drop]

theorem slice_slice (bs : Bytes) (o n o' n' : Nat) (h : o' + n' ≤ n) :
    slice (slice bs o n) o' n' = slice bs (o + o') n' := by
  apply List.ext_getElem?
  intro i
  simp only [getElem?_slice]
  grind

theorem slice_append_left (a b : Bytes) (o n : Nat) (h : o + n ≤ a.length) :
    slice (a ++ b) o n = slice a o n := by
  apply List.ext_getElem?
  intro i
  simp only [getElem?_slice]
  grind

theorem slice_append_right (a b : Bytes) (o n : Nat) (ha : a.length = o) (hb : b.length ≤ n) :
    slice (a ++ b) o n = b := by
  subst ha
  unfold slice
  rw [List.drop_left, List.take_of_length_le hb]

/-- a store does not disturb bytes outside its range -/
theorem slice_patch_disjoint (bs : Bytes) (off : Nat) (new : Bytes) (o n : Nat)
    (h : o + n ≤ off ∨ off + new.length ≤ o) : slice (patch bs off new) o n = slice bs o n := by
  apply List.ext_getElem?
  intro i
  simp only [getElem?_slice, getElem?_patch]
  grind

/-- part of a store that fits into the file reads back -/
theorem slice_patch_inside (bs : Bytes) (off : Nat) (new : Bytes) (o n : Nat)
    (h : off + new.length ≤ bs.length) (ho : off ≤ o) (hn : o + n ≤ off + new.length) :
    slice (patch bs off new) o n = slice new (o - off) n := by
  apply List.ext_getElem?
  intro i
  simp only [getElem?_slice, getElem?_patch]
  grind

/-- a store that fits into the file reads back -/
theorem slice_patch_same (bs : Bytes) (off : Nat) (new : Bytes) (n : Nat) (hn : new.length = n)
    (h : off + n ≤ bs.length) : slice (patch bs off new) off n = new := by
  subst hn
  rw [slice_patch_inside bs off new off _ h (Nat.le_refl _) (Nat.le_refl _), Nat.sub_self, slice_all]

/-! ### integers -/

theorem length_encLE (n v : Nat) : (encLE n v).length = n := by
  induction n generalizing v with
  | zero => rfl
  | succ n ih => simp [encLE, ih]

theorem decLE_encLE (n v : Nat) : decLE (encLE n v) = v % 256 ^ n := by
  induction n generalizing v with
  | zero => simp [encLE, decLE, Nat.mod_one]
  | succ n ih =>
    simp only [encLE, decLE, ih]
    rw [Nat.pow_succ, Nat.mul_comm (256 ^ n) 256, Nat.mod_mul]

theorem decLE_append (a b : Bytes) : decLE (a ++ b) = decLE a + 256 ^ a.length * decLE b := by
  induction a with
  | nil => simp [decLE]
  | cons x xs ih =>
    simp only [List.cons_append, decLE, ih, List.length_cons, Nat.pow_succ]
    rw [Nat.mul_add, Nat.mul_comm (256 ^ xs.length) 256, Nat.mul_assoc]
    omega

theorem decLE_encU16 (v : Nat) (h : v < TWO16) : decLE (encU16 v) = v :=
  (decLE_encLE 2 v).trans (Nat.mod_eq_of_lt h)

theorem decLE_encU32 (v : Nat) (h : v < TWO32) : decLE (encU32 v) = v :=
  (decLE_encLE 4 v).trans (Nat.mod_eq_of_lt h)

theorem decI64_encI64 (x : Int) (h : i64InRange x) : decI64 (encI64 x) = x := by
  unfold i64InRange at h
  unfold decI64 encI64
  simp only [decLE_encLE, TWO63, TWO64] at *
  omega

/-! ### the record and the header -/

theorem length_padBytes (pad : Bytes) : (padBytes pad).length = 4 := by
  simp [padBytes, ZERO_PAD]

theorem length_encodeRecordP (r : Record) (pad : Bytes) : (encodeRecordP r pad).length = 56 := by
  simp [encodeRecordP, encI64, encU32, length_encLE, length_padBytes]

theorem length_encodeHeader (h : Header) : (encodeHeader h).length = 16 := by
  simp [encodeHeader, encU16, encU32, length_encLE]

theorem length_encodeSegmentP (h : Header) (r : Record) (pad : Bytes) : (encodeSegmentP h r pad).length = 72 := by
  simp [encodeSegmentP, length_encodeHeader, length_encodeRecordP]

theorem ofCode_code (s : Status) : Status.ofCode s.code = some s := by cases s <;> rfl

theorem code_lt (s : Status) : s.code < TWO32 := by cases s <;> decide

/-- the fields of the encoded record, by offset and width -/
theorem slice_encodeRecordP (r : Record) (pad : Bytes) :
    slice (encodeRecordP r pad) 0 8 = encI64 r.asOf.sec ∧ slice (encodeRecordP r pad) 8 8 = encI64 r.asOf.nsec ∧
    slice (encodeRecordP r pad) 16 8 = encI64 r.voidAfter.sec ∧
    slice (encodeRecordP r pad) 24 8 = encI64 r.voidAfter.nsec ∧ slice (encodeRecordP r pad) 32 8 = encI64 r.bound ∧
    slice (encodeRecordP r pad) 40 4 = encU32 r.drift ∧ slice (encodeRecordP r pad) 44 4 = encU32 r.reserved ∧
    slice (encodeRecordP r pad) 48 4 = encU32 r.status.code := by
  -- evaluating `drop` over concatenations nested to the left is slow
  simp only [encodeRecordP, List.append_assoc]
  exact ⟨rfl, rfl, rfl, rfl, rfl, rfl, rfl, rfl⟩

theorem decodeRecord_encodeRecordP (r : Record) (pad : Bytes) (hr : r.inRange) :
    decodeRecord (encodeRecordP r pad) = some r := by
  obtain ⟨h1, h2, h3, h4, h5, h6, h7⟩ := hr
  obtain ⟨e0, e1, e2, e3, e4, e5, e6, e7⟩ := slice_encodeRecordP r pad
  unfold decodeRecord
  rw [if_neg (by rw [length_encodeRecordP]; decide), e0, e1, e2, e3, e4, e5, e6, e7, decLE_encU32 _ (code_lt _),
    ofCode_code]
  simp only [decI64_encI64 _ h1, decI64_encI64 _ h2, decI64_encI64 _ h3, decI64_encI64 _ h4,
    decI64_encI64 _ h5, decLE_encU32 _ h6, decLE_encU32 _ h7]

theorem parseHeader_encodeHeader_append (h : Header) (rest : Bytes) (hh : h.inRange) :
    parseHeader (encodeHeader h ++ rest) = h := by
  obtain ⟨h1, h2, h3, h4, h5⟩ := hh
  simp only [encodeHeader, List.append_assoc]
  show Header.mk (decLE (encU32 h.magic0)) (decLE (encU32 h.magic1)) (decLE (encU32 h.segsize))
    (decLE (encU16 h.version)) (decLE (encU16 h.generation)) = h
  rw [decLE_encU32 _ h1, decLE_encU32 _ h2, decLE_encU32 _ h3, decLE_encU16 _ h4, decLE_encU16 _ h5]

theorem padBytes_idem (pad : Bytes) : padBytes (padBytes pad) = padBytes pad := by
  have h := length_padBytes pad
  rw [padBytes, List.take_append_of_le_length (by omega), List.take_of_length_le (by omega)]

/-- only the first four padding bytes count -/
theorem encodeRecordP_padBytes (r : Record) (pad : Bytes) : encodeRecordP r (padBytes pad) = encodeRecordP r pad := by
  unfold encodeRecordP
  rw [padBytes_idem]

/-! ### `ShmHeader::read` / `ShmReader::new` as the first failing check -/

/-- `ShmHeader::read` reports not-initialised: a short file, a wrong magic number, version 0 or
    generation 0 -/
abbrev hdrNotInit (bs : Bytes) : Prop :=
  bs.length < 16 ∨ ¬ ((parseHeader bs).magic0 = MAGIC0 ∧ (parseHeader bs).magic1 = MAGIC1) ∨
    (parseHeader bs).version = 0 ∨ (parseHeader bs).generation = 0

theorem readHeader_eq (bs : Bytes) :
    readHeader bs =
      if hdrNotInit bs then .error .notInit
      else if (parseHeader bs).segsize < 16 then .error .malformed
      else .ok (parseHeader bs) := by
  unfold readHeader HEADER_SIZE
  grind

theorem readerOpen_file (bs : Bytes) :
    readerOpen (.file bs) =
      if hdrNotInit bs then .error .notInit
      else if (parseHeader bs).segsize < 72 then .error .malformed
      else .ok (parseHeader bs) := by
  simp only [readerOpen, readerOpenLim, readHeader_eq, SEGMENT_SIZE]
  grind

/-- under an address-space limit the mapping comes between the two size checks -/
theorem readerOpenLim_some_file (L : Nat) (bs : Bytes) :
    readerOpenLim (some L) (.file bs) =
      if hdrNotInit bs then .error .notInit
      else if (parseHeader bs).segsize < 16 then .error .malformed
      else if L < (parseHeader bs).segsize then .error (.sys ENOMEM .mmap)
      else if (parseHeader bs).segsize < 72 then .error .malformed
      else .ok (parseHeader bs) := by
  simp only [readerOpenLim, readHeader_eq, SEGMENT_SIZE]
  grind

theorem readerOpen_ok_iff (bs : Bytes) (h : Header) :
    readerOpen (.file bs) = .ok h ↔
      16 ≤ bs.length ∧ h = parseHeader bs ∧ h.magic0 = MAGIC0 ∧ h.magic1 = MAGIC1 ∧
      h.version ≠ 0 ∧ h.generation ≠ 0 ∧ 72 ≤ h.segsize := by
  rw [readerOpen_file]
  grind

/-! ### growing a short usable file (`set_len(72)`) -/

theorem length_extendToSegment (bs : Bytes) : (extendToSegment bs).length = max bs.length 72 := by
  unfold extendToSegment SEGMENT_SIZE
  rw [List.length_append, List.length_replicate]; omega

/-- a file of 72 bytes or more is not touched -/
theorem extendToSegment_of_le (bs : Bytes) (h : 72 ≤ bs.length) : extendToSegment bs = bs := by
  unfold extendToSegment SEGMENT_SIZE
  have : 72 - bs.length = 0 := by omega
  rw [this]; simp

/-- the existing bytes stay: in particular the header is read as before -/
theorem slice_extendToSegment (bs : Bytes) (o n : Nat) (h : o + n ≤ bs.length) :
    slice (extendToSegment bs) o n = slice bs o n := slice_append_left _ _ o n h

/-! ### start-up and the first publication -/

/-- the four stores of a take-over followed by one `write` (version, generation to odd, record,
    generation to even), read back slice by slice: the first twelve bytes are never stored to, the
    later generation store wins -/
theorem slice_stores (bs v s rec g W : Bytes) (hW : W = patch (patch (patch (patch bs 12 v) 14 s) 16 rec) 14 g)
    (hv : v.length = 2) (hrec : rec.length = 56) (hg : g.length = 2) (hlen : 72 ≤ bs.length) :
    (∀ o n, o + n ≤ 12 → slice W o n = slice bs o n) ∧ slice W 12 2 = v ∧ slice W 14 2 = g ∧ slice W 16 56 = rec := by
  have l1 := length_patch bs 12 v
  have l2 := length_patch (patch bs 12 v) 14 s
  have l3 := length_patch (patch (patch bs 12 v) 14 s) 16 rec
  subst hW
  refine ⟨fun o n h => ?_, ?_, ?_, ?_⟩ <;>
    simp (disch := omega) only [slice_patch_disjoint, slice_patch_same]

/-- what `ShmWriter::new` leaves of a file it keeps (grown to 72 bytes if shorter, version 1), after
    the first `write`.  The file it re-creates goes the same way, from `wipeBytes`. -/
def takeOver (bs : Bytes) (r : Record) (pad : Bytes) : Bytes :=
  writeRecord (patch (extendToSegment bs) 12 (encU16 1)) r pad

theorem length_takeOver (bs : Bytes) (r : Record) (pad : Bytes) :
    (takeOver bs r pad).length = max bs.length 72 := by
  unfold takeOver writeRecord
  simp only [length_patch, length_extendToSegment]

theorem slice_takeOver (bs : Bytes) (r : Record) (pad : Bytes) (hlen : 16 ≤ bs.length) :
    (∀ o n, o + n ≤ 12 → slice (takeOver bs r pad) o n = slice bs o n) ∧
    slice (takeOver bs r pad) 12 2 = encU16 1 ∧
    slice (takeOver bs r pad) 14 2 = encU16 (genFinish (genStart (parseHeader bs).generation)) ∧
    slice (takeOver bs r pad) 16 56 = encodeRecordP r pad := by
  have hg : (parseHeader (patch (extendToSegment bs) 12 (encU16 1))).generation = (parseHeader bs).generation := by
    unfold parseHeader
    simp only []
    rw [slice_patch_disjoint _ _ _ _ _ (Or.inr (by decide)), slice_extendToSegment bs 14 2 hlen]
  unfold takeOver writeRecord
  rw [hg]
  obtain ⟨h1, h2⟩ := slice_stores (extendToSegment bs) _ _ _ _ _ rfl (length_encLE 2 1) (length_encodeRecordP r pad)
    (length_encLE 2 _) (by rw [length_extendToSegment]; omega)
  exact ⟨fun o n h => (h1 o n h).trans (slice_extendToSegment bs o n (by omega)), h2⟩

/-- header of a usable segment after start-up and one `write` -/
theorem parseHeader_takeOver (bs : Bytes) (r : Record) (pad : Bytes) (hlen : 16 ≤ bs.length) :
    parseHeader (takeOver bs r pad) =
      { parseHeader bs with version := 1,
                            generation := genFinish (genStart (parseHeader bs).generation) } := by
  obtain ⟨h1, h2, h3, _⟩ := slice_takeOver bs r pad hlen
  unfold parseHeader
  rw [h1 0 4 (by decide), h1 4 4 (by decide), h1 8 4 (by decide), h2, h3, decLE_encU16 1 (by decide),
    decLE_encU16 _ (genFinish_lt _)]
  rfl

/-- a file of at most 72 bytes that is taken over, after start-up and one `write`, byte for byte: its first twelve
    bytes, version 1, the advanced generation, the record (nothing of the zero fill, and nothing of
    what the file held from byte 16 on, survives) -/
theorem takeOver_short (bs : Bytes) (r : Record) (pad : Bytes) (hlen : 16 ≤ bs.length) (hshort : bs.length ≤ 72) :
    takeOver bs r pad =
      slice bs 0 12 ++ encU16 1 ++ encU16 (genFinish (genStart (parseHeader bs).generation)) ++
        encodeRecordP r pad := by
  obtain ⟨h1, h2, h3, h4⟩ := slice_takeOver bs r pad hlen
  have hl : (takeOver bs r pad).length = 12 + 2 + 2 + 56 := by rw [length_takeOver]; omega
  rw [← h1 0 12 (by decide), ← h2, ← h3, ← h4, slice_append_slice _ 0 12 2, slice_append_slice _ 0 (12 + 2) 2,
    slice_append_slice _ 0 (12 + 2 + 2) 56, ← hl, slice_all]

/-- the padding observed in the image is the padding written -/
theorem slice_takeOver_pad (bs : Bytes) (r : Record) (pad : Bytes) (hlen : 16 ≤ bs.length) :
    slice (takeOver bs r pad) 68 4 = padBytes pad := by
  rw [show slice (takeOver bs r pad) 68 4 = slice (slice (takeOver bs r pad) 16 56) 52 4 from
    (slice_slice _ 16 56 52 4 (by decide)).symm, (slice_takeOver bs r pad hlen).2.2.2]
  exact slice_append_right _ _ 52 4 (by simp [encI64, encU32, length_encLE]) (by rw [length_padBytes]; decide)

/-- the file the daemon re-creates, after the first publication -/
theorem takeOver_wipeBytes (r : Record) (pad : Bytes) :
    takeOver wipeBytes r pad = encodeSegmentP ⟨MAGIC0, MAGIC1, SEGMENT_SIZE, 1, 2⟩ r pad := by
  have hl : wipeBytes.length = 72 := by decide
  rw [takeOver_short wipeBytes r pad (by omega) (by omega)]
  rfl

/-- what `ShmWriter::new` maps, a file that opens or the wiped file, has a whole header with the magic
    number that declares at least 72 bytes -/
def Mappable (bs : Bytes) : Prop :=
  16 ≤ bs.length ∧ (parseHeader bs).magic0 = MAGIC0 ∧ (parseHeader bs).magic1 = MAGIC1 ∧
    72 ≤ (parseHeader bs).segsize

/-- `ShmWriter::new` over a file that opens: grown to 72 bytes if shorter, version stored, nothing else -/
theorem writerNew_of_open (bs : Bytes) (h : Header) (hok : readerOpen (.file bs) = .ok h) :
    writerNew (.file bs) = .ok (.file (patch (extendToSegment bs) 12 (encU16 1)), false) := by
  unfold writerNew
  rw [hok]

/-- …over anything else but a directory: the wiped file, version stored -/
theorem writerNew_of_not_open (st : FileState) (hd : st ≠ .directory) (hno : ∀ h, readerOpen st ≠ .ok h) :
    writerNew st = .ok (.file (patch wipeBytes 12 (encU16 1)), true) := by
  unfold writerNew
  cases hro : readerOpen st with
  | ok h => exact absurd hro (hno h)
  | error e =>
    cases st with
    | directory => exact absurd rfl hd
    | missing => rfl
    | file bs => rfl

theorem startAndPublish_usable (bs : Bytes) (h : Header) (r : Record) (pad : Bytes)
    (hok : readerOpen (.file bs) = .ok h) :
    startAndPublish (.file bs) r pad = .ok (.file (takeOver bs r pad), false) := by
  unfold startAndPublish
  rw [writerNew_of_open bs h hok]
  rfl

/-- daemon start-up and the first publication, for every prior state of the path but a directory: a
    file that opens is taken over, anything else is wiped first -/
theorem startAndPublish_spec (st : FileState) (r : Record) (pad : Bytes) (hd : st ≠ .directory) :
    ∃ bs rc, startAndPublish st r pad = .ok (.file (takeOver bs r pad), rc) ∧ Mappable bs ∧
      (rc = false ∧ st = .file bs ∧ readerOpen st = .ok (parseHeader bs) ∨
       rc = true ∧ bs = wipeBytes ∧ ∀ h, readerOpen st ≠ .ok h) := by
  by_cases hopen : ∃ h, readerOpen st = .ok h
  · obtain ⟨h, hro⟩ := hopen
    cases st with
    | missing => cases hro
    | directory => cases hro
    | file bs =>
      obtain ⟨hl, rfl, hm0, hm1, _, _, hs⟩ := (readerOpen_ok_iff bs h).mp hro
      exact ⟨bs, false, startAndPublish_usable bs _ r pad hro, ⟨hl, hm0, hm1, hs⟩, Or.inl ⟨rfl, rfl, hro⟩⟩
  · have hno : ∀ h, readerOpen st ≠ .ok h := fun h hc => hopen ⟨h, hc⟩
    refine ⟨wipeBytes, true, ?_, by unfold Mappable; decide, Or.inr ⟨rfl, rfl, hno⟩⟩
    unfold startAndPublish takeOver
    rw [writerNew_of_not_open st hd hno, show extendToSegment wipeBytes = wipeBytes by decide]
    rfl

end ClockBound

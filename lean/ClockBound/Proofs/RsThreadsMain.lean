/-
  The main thread (`thread_manager::run`), for `CodeTieThreads.main_eq`: the events its statement speaks of, and the
  one callee that is evaluated apart: `broadcast_abort` on the dispatch box of the web does its two sends, in the
  order in which the box iterates, whatever they return (`bcast_eq`, on `callDecl` for every fuel and caller state:
  a rewrite rule for the evaluation of `run`).
-/
import ClockBound.Proofs.RsThreadsBase
namespace ClockBound.Rs.ThreadsProof
open ClockBound ClockBound.Rs ClockBound.Generated ClockBound.Rs.DictThreads ClockBound.Rs.EmbedThreads
open ClockBound.Threads

open scoped ClockBound.Rs.CallByValue

/-- the Abort sends of a broadcast over a box that iterates in order `ks`: every channel but main's, in that
    order; the i-th send returns `oks[i]` -/
def bcastEvs (ks : List Thread) (ok1 ok2 : Bool) : List MainEv :=
  List.zipWith MainEv.abort (ks.filter (· != .main)) [ok1, ok2]

theorem bcast_eq (ks : List Thread) (hks : isOrder ks = true) (ok1 ok2 : Bool) (nowNs : Int) (inp : Nat → Value)
    (env : List (String × Value)) (log : List Value) (pos : Nat) (M : Nat)
    (h1 : inp pos = sendResult ok1 RMsg.abort.value) (h2 : inp (pos + 1) = sendResult ok2 RMsg.abort.value) :
    callDecl (M + 40) (Code.ctxWith nowNs DictThreads.ext [] inp) Code.fn_thread_manager__broadcast_abort .unit
      [dispatchValue ks] ⟨env, log, pos⟩
    = .val (.tuple [.unit, .unit]) ⟨env, log ++ (bcastEvs ks ok1 ok2).map MainEv.value, pos + 2⟩ := by
  rcases isOrder_cases hks with h | h | h | h | h | h <;> subst h <;>
    simp -implicitDefEqProofs only [rs_eval, rs_base, rs_code, dispatchValue, allChans, RMsg.value, h1, h2, bcastEvs,
      MainEv.value]

/-- the call of `broadcast_abort`, under a name `simp` does not unfold: the interpreter's equation for `callDecl`
    would evaluate the callee; `bcastCall_wrap` (used as a pre-rewrite) hides the call, and `bcast_eq` applies
    once its arguments are values -/
def bcastCall (N : Nat) (ctx : Ctx) (s : Value) (a : List Value) (st : St) : Res :=
  callDecl N ctx Code.fn_thread_manager__broadcast_abort s a st

theorem bcastCall_wrap (N : Nat) (ctx : Ctx) (s : Value) (a : List Value) (st : St) :
    callDecl N ctx Code.fn_thread_manager__broadcast_abort s a st = bcastCall N ctx s a st := rfl

/-- what `run` does before its loop: the channel web, and per worker its mailbox and its thread -/
def startEvents (ks : List Thread) (phc : Option (Nat × Value)) (drift : Nat) (nP nW : String) : List Value :=
  [evChannelWeb (.list (allChans.map chanValue)) (.tuple [mailboxValue, dispatchValue ks]),
   evGetMailbox (chanValue .poller) (.enumv "Some" [rxValue (chanValue .poller)]),
   evSpawn (thunkValue "chrony_poller::run" [contextValue .poller ks, phcValue phc]) (handleValue nP),
   evGetMailbox (chanValue .writer) (.enumv "Some" [rxValue (chanValue .writer)]),
   evSpawn (thunkValue "shm_writer::run" [contextValue .writer ks, .int .u32 drift]) (handleValue nW),
   evGetMailbox (chanValue .main) (.enumv "Some" [rxValue (chanValue .main)])]

/-- main's events from the loop on -/
def mainEvs (k : Nat) (pre : Nat → RMsg) (stop : Recv) (ks : List Thread) (ok1 ok2 : Bool) (nP nW : String)
    (okP okW : Bool) : List MainEv :=
  (List.range k).map (fun j => MainEv.recv (.ok (pre j))) ++ [MainEv.recv stop] ++ bcastEvs ks ok1 ok2 ++
    [MainEv.join .poller (handleValue nP) (joinResult okP), MainEv.join .writer (handleValue nW) (joinResult okW)]

end ClockBound.Rs.ThreadsProof

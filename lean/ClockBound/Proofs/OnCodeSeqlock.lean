/-
  Helpers for `Properties/OnCodeSeqlock.lean`: decoding the logged events back into generation stores, histories of
  `write` calls as runs of `GState`.
-/
import ClockBound.Properties.CodeTieSeqlock
import ClockBound.Properties.C11
namespace ClockBound.OnCode
open ClockBound ClockBound.Rs ClockBound.Rs.DictShm ClockBound.Rs.EmbedShm

/-- the value a logged event stores to the generation field, if it is such a store -/
def genStoreOf : Value → Option Nat
  | .ext "store" [.str "generation", .int .u16 v, _] => some v.toNat
  | _ => none

/-- the generation stores among logged events, in order -/
def genStores (l : List Value) : List Nat := l.filterMap genStoreOf

/-- the events an outcome logged (`[]` unless it returned) -/
def eventsOf : Rs.Outcome → List Value
  | .ok _ _ l => l
  | _ => []

/-- of the model's accesses, the stores to the generation are decoded as such -/
theorem genStoreOf_accValue (acc : SL.Acc) :
    genStoreOf (accValue acc) = match acc with | .store .gen _ v => some v | _ => none := by
  rcases acc with ⟨x, o, v⟩ | ⟨x | x | c, o, v⟩ | o <;>
    simp [genStoreOf, accValue, locValue, locTy, evStore, evLoad, evFence]

theorem genStores_writerProg (a : SL.Ann) (g : Nat) (cells : List Nat) :
    genStores ((SL.writerProg a g cells).map accValue) = [genStart g, genFinish (genStart g)] := by
  unfold genStores SL.writerProg
  cases a.wFence <;> simp [List.filterMap_append, List.filterMap_map, Function.comp_def, genStoreOf_accValue]

/-- a history of `write` calls: `true` = the call completed, `false` = the writer died between its two stores -/
def callEvents : List Bool → List GEv
  | [] => []
  | true :: rest => .start :: .finish :: callEvents rest
  | false :: rest => .start :: .crash :: callEvents rest

end ClockBound.OnCode

/-
  The translation tie for `ShmReader::new` (with `FdGuard::new`, `MmapGuard::new` inlined, `ShmHeader::read` by
  `read_call`): statement in `Properties/CodeTieHeader.lean`.

  `newDid` says what the function does, in terms of the answers of `open`, `read`, `mmap` and `errno`: what it decides,
  which events it logs, which answers it asks for.  `reader_new_call` is the call from an arbitrary interpreter state
  (also the form in which a caller of `ShmReader::new` uses it); `reader_new_on` puts in the answers
  `EmbedShm.openAnswers` for each state of the path.
-/
import ClockBound.Proofs.RsHeader
namespace ClockBound.Rs.HeaderProof
open ClockBound ClockBound.Rs ClockBound.Generated ClockBound.Rs.DictShm ClockBound.Rs.EmbedShm

open scoped ClockBound.Rs.CallByValue

@[rs_eval] theorem noLog_ok (v s : Value) (l : List Value) : (Outcome.ok v s l).noLog = .ok v s [] := rfl

/-- the event of `open(2)` on the path -/
def evOpen (fd : Int) : Value := evSys "open" [.ext "ptr:c_char" [.str "path"], libcConst "O_RDONLY"] (.int .i32 fd)

/-- the event of `mmap(2)` of `len` bytes of `fd` that returned the address `a` -/
def evMmap (fd : Int) (len : Nat) (a : Value) : Value :=
  evSys "mmap" [.ext "null" [], .int .usize len, libcConst "PROT_READ", libcConst "MAP_SHARED", .int .i32 fd, .int .infer 0] a

/-- what a call does, seen from its caller: the decision, the events logged, the answers asked for -/
structure Did where
  d : Except ShmErr Header
  evs : List Value
  asked : List Value

/-- what `ShmReader::new` does.  `open` returns `fd` (then `errno = e0` if it failed); `read` returns `ret` (then
    `errno = e1` if it failed, the header `h` in the buffer if it was filled); after a valid header `mmap` returns
    `MAP_FAILED` (iff `mf`; then `errno = e2`) or the address of the segment, and the declared size is checked. -/
def newDid (fd : Int) (e0 : Nat) (ret : Int) (e1 : Nat) (h : Header) (mf : Bool) (e2 : Nat) : Did :=
  if fd < 0 then ⟨.error (.sys e0 .open_), [evOpen fd, evErrno e0], [.int .infer fd, .int .infer e0]⟩
  else if (readProg ret e1 h).isOk then
    if mf then
      ⟨.error (.sys e2 .mmap), [evOpen fd, evRead fd ret, evMmap fd h.segsize (addr "MAP_FAILED"), evErrno e2],
        [.int .infer fd, .int .infer ret, headerValue h, addr "MAP_FAILED", .int .infer e2]⟩
    else
      ⟨mapProg false e2 h, [evOpen fd, evRead fd ret, evMmap fd h.segsize (addr "segment")],
        [.int .infer fd, .int .infer ret, headerValue h, addr "segment"]⟩
  else
    ⟨.error (errOf (readProg ret e1 h)), evOpen fd :: evRead fd ret :: if ret < 0 then [evErrno e1] else [],
      .int .infer fd :: readAsked ret e1 h⟩

/-- `ShmReader::new(path)` from any state -/
theorem reader_new_call (fd : Int) (hfd : IntTy.i32.lo ≤ fd ∧ fd ≤ IntTy.i32.hi) (e0 : Nat) (he0 : e0 ≤ 2147483647)
    (ret : Int) (hret : IntTy.isize.lo ≤ ret ∧ ret ≤ IntTy.isize.hi) (e1 : Nat) (he1 : e1 ≤ 2147483647)
    (h : Header) (hh : h.inRange) (mf : Bool) (e2 : Nat) (he2 : e2 ≤ 2147483647) (inp : Nat → Value) (N : Nat) (st : St)
    (hin : Answers inp st.pos (newDid fd e0 ret e1 h mf e2).asked) :
    callDecl (N + 80) (hctx inp) Code.fn_ShmReader__new .unit [cstrValue] st
    = returns st (openValue (newDid fd e0 ret e1 h mf e2).d) (newDid fd e0 ret e1 h mf e2).evs
        (newDid fd e0 ret e1 h mf e2).asked.length := by
  obtain ⟨hlo, hhi⟩ := hfd
  simp only [rs_eval] at hlo hhi
  simp only [returns]
  -- Which answer comes next depends on the comparisons: one evaluation per outcome of these.  The outcome is given in
  -- both forms (`fd < 0`, `0 ≤ fd`): the source may as well test `fd >= 0`.
  by_cases hneg : fd < 0
  · simp only [newDid, if_pos hneg, Answers, and_true, openValue] at hin ⊢
    have hneg' : ¬ 0 ≤ fd := by omega
    simp -implicitDefEqProofs only [rs_eval, rs_base, rs_code, cstrValue, hin, hlo, hhi, hneg, hneg', he0, shmErrValue, Origin.text,
      evOpen, evErrno, Nat.add_assoc]
  have hpos : 0 ≤ fd := by omega
  by_cases hok : (readProg ret e1 h).isOk
  swap
  · simp only [newDid, if_neg hneg, if_neg hok, Answers, openValue] at hin ⊢
    have hr := fun N st' (hp : st'.pos = st.pos + 1) => read_call ret hret e1 he1 h hh fd inp N st' (hp ▸ hin.2)
    simp only [returns, if_neg hok] at hr
    simp -implicitDefEqProofs only [rs_eval, rs_base, rs_code, cstrValue, hin.1, ↓hr, hlo, hhi, hneg, hpos, hok, evOpen, Nat.add_assoc,
      Nat.add_comm 1]
  obtain ⟨hr0, hr16⟩ := Proofs.readProg_isOk hok
  have hr := fun (h12 : inp (st.pos + 1) = .int .infer ret ∧ inp (st.pos + 2) = headerValue h) N st'
      (hp : st'.pos = st.pos + 1) => read_call ret hret e1 he1 h hh fd inp N st' (by
    simpa only [readAsked, if_neg hr0, if_neg hr16, Answers, hp, Nat.add_assoc, Nat.reduceAdd, and_true] using h12)
  simp only [returns, if_pos hok] at hr
  have hs' := segsize_u64 hh
  cases mf
  · -- mapped: the rest of `new`
    have hm : mapProg false e2 h = if h.segsize < 72 then .error .malformed else .ok h := rfl
    simp only [newDid, if_neg hneg, if_pos hok, Bool.false_eq_true, if_false, Answers, Nat.add_assoc, Nat.reduceAdd, and_true,
      hm] at hin ⊢
    have hr := hr ⟨hin.2.1, hin.2.2.1⟩
    simp -implicitDefEqProofs only [rs_eval, rs_base, rs_code, cstrValue, hin, ↓hr, hlo, hhi, hneg, hpos, hok, hs', headerValue,
      EmbedShm.sizes, chkInt, HEADER_SIZE, RECORD_SIZE, evOpen, evMmap, Nat.add_assoc]
    split_ifs <;> rfl
  · simp only [newDid, if_neg hneg, if_pos hok, if_true, Answers, Nat.add_assoc, Nat.reduceAdd, and_true, openValue] at hin ⊢
    have hr := hr ⟨hin.2.1, hin.2.2.1⟩
    simp -implicitDefEqProofs only [rs_eval, rs_base, rs_code, cstrValue, hin, ↓hr, hlo, hhi, hneg, hpos, hok, hs', he2, headerValue,
      EmbedShm.sizes, shmErrValue, Origin.text, evOpen, evMmap, evErrno, Nat.add_assoc]

/-- none of the events of `ShmReader::new` changes anything -/
theorem newDid_query (fd : Int) (e0 : Nat) (ret : Int) (e1 : Nat) (h : Header) (mf : Bool) (e2 : Nat) :
    (newDid fd e0 ret e1 h mf e2).evs.filter isMutEv = [] := by
  unfold newDid
  split_ifs <;> rfl

/-- `ShmReader::new(path)` on the path state `st`.  Of the answers `openAnswers lim fd st` it asks for `used` (without a
    mapping limit these are `openUsed fd st`); it returns what the model's `readerOpenLim` decides, and none of its
    events changes anything. -/
theorem reader_new_on (lim : Option Nat) (st : FileState) (hst : ∀ bs, st = .file bs → (parseHeader bs).inRange)
    (fd : Nat) (hfd : fd ≤ 2147483647) :
    ∃ evs used, evs.filter isMutEv = [] ∧ used <+: openAnswers lim fd st ∧ (lim = none → used = openUsed fd st) ∧
      ∀ inp N (s : St), Answers inp s.pos used →
        callDecl (N + 80) (hctx inp) Code.fn_ShmReader__new .unit [cstrValue] s
        = returns s (openValue (readerOpenLim lim st)) evs used.length := by
  have hfd0 : ¬ (fd : Int) < 0 := by omega
  cases st with
  | missing =>
    have hd := reader_new_call (-1) (by decide) ENOENT (by decide) 0 (by decide) 0 (by decide) ⟨0, 0, 0, 0, 0⟩ (by decide)
      false 0 (by decide)
    rw [newDid, if_pos (by decide)] at hd
    exact ⟨_, _, rfl, ⟨[], rfl⟩, fun _ => rfl, hd⟩
  | directory =>
    have hd := reader_new_call fd (i32_range hfd) 0 (by decide) (-1) (by decide) EISDIR (by decide) ⟨0, 0, 0, 0, 0⟩
      (by decide) false 0 (by decide)
    rw [newDid, if_neg hfd0, if_neg (by decide)] at hd
    exact ⟨_, _, rfl, ⟨[], rfl⟩, fun _ => rfl, hd⟩
  | file bs =>
    have hr0 := Proofs.readRet_nonneg bs
    have hd := reader_new_call fd (i32_range hfd) 0 (by decide) (readRet bs) (readRet_range bs) 0 (by decide)
      (parseHeader bs) (hst bs rfl) (mapFails lim (parseHeader bs).segsize) ENOMEM (by decide)
    generalize hD : newDid fd 0 (readRet bs) 0 (parseHeader bs) (mapFails lim (parseHeader bs).segsize) ENOMEM = D at hd
    have hdec : D.d = readerOpenLim lim (.file bs) := by
      rw [← hD, Proofs.readerOpenLim_eq_prog, newDid, if_neg hfd0]
      cases hp : readProg (readRet bs) 0 (parseHeader bs) with
      | error e => rfl
      | ok a =>
        rw [Proofs.readProg_ok hp]
        show _ = mapProg (mapFails lim (parseHeader bs).segsize) ENOMEM (parseHeader bs)
        cases mapFails lim (parseHeader bs).segsize <;> rfl
    rw [hdec] at hd
    refine ⟨_, _, hD ▸ newDid_query _ _ _ _ _ _ _, ?_, ?_, hd⟩
    all_goals clear hd hdec
    · subst hD
      simp only [newDid, if_neg hfd0, openAnswers, readAsked, if_neg hr0]
      split_ifs <;> exact ⟨_, rfl⟩
    · rintro rfl
      subst hD
      simp only [newDid, if_neg hfd0, mapFails, openUsed, readAsked, readProg, if_neg hr0, Proofs.readRet_lt]
      by_cases h16 : bs.length < HEADER_SIZE
      · simp [h16, Except.toBool]
      · cases checkHeader (parseHeader bs) <;> simp [h16, Except.toBool]

end ClockBound.Rs.HeaderProof

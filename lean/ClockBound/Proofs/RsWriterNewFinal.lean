/-
  `ShmWriter::new` on a prior state of the path: `new_on` puts `HeaderProof.reader_new_on`, `usable_of_new` and `new_run`
  together on the answers `EmbedShm.newAnswers`; the state-changing events are the operations `Crash.newOps`.
-/
import ClockBound.Proofs.RsWriterNew
import ClockBound.Proofs.Header
namespace ClockBound.Rs.WriterNewProof
open ClockBound ClockBound.Rs ClockBound.Generated ClockBound.Rs.DictShm ClockBound.Rs.EmbedShm
open ClockBound.Rs.HeaderProof (hctx)

theorem ordValue_ordOfValue (v : Value) (o : SL.Ord) (h : ordOfValue v = some o) : v = ordValue o := by
  unfold ordOfValue at h
  split at h <;> first | (injection h with h; subst h; rfl) | cases h

/-- the prior opens iff its abstraction is usable -/
theorem usable_iff_open (st : FileState) : (Crash.fileAOf st).usable = true ↔ ∃ h, readerOpen st = .ok h := by
  cases st with
  | file bs =>
    simp only [readerOpen_ok_iff, Crash.fileAOf, Crash.FileA.usable]
    constructor
    · intro hu
      exact ⟨parseHeader bs, by simpa [and_assoc] using hu⟩
    · rintro ⟨h, h16, rfl, hr⟩
      simpa [and_assoc] using ⟨h16, hr⟩
  | _ => simp [Crash.fileAOf, Crash.FileA.usable, readerOpen, readerOpenLim]

/-- the state-changing events of `new` after `is_usable_segment` are the operations `Crash.newOps` -/
theorem newOps_events (o : SL.Ord) (path parent : Value) (fd : Nat) (hasParent : Bool) (f : Crash.FileA) :
    (fixEvents path parent hasParent f ++ mapEvents path fd ++ [versionStore (ordValue o)]).filter isMutEv
    = (Crash.newOps f hasParent).map (opValue o path parent) := by
  cases hu : f.usable <;> cases hasParent <;> by_cases hl : f.len < 72 <;>
    simp [fixEvents, Crash.newOps, hu, hl, wipeEvents, mapEvents, versionStore, evFs, evStore, isMutEv, opValue, okUnit,
      fileObj, MAGIC0, MAGIC1, SEGMENT_SIZE, HEADER_SIZE]

/-- `ShmWriter::new(path)` on ANY prior state `st` of the path, with the answers `newAnswers`: it returns the writer over
    the mapping, and its state-changing operations are `Crash.newOps` on the abstraction of `st`; `o` is the memory
    ordering the source names for the version store -/
theorem new_on (st : FileState) (hst : ∀ bs, st = .file bs → (parseHeader bs).inRange) (parent : String) (fd : Nat)
    (hfd : fd ≤ 2147483647) :
    ∃ o : SL.Ord,
    (run (hctx (streamOf (newAnswers fd (parent != "") st))) "ShmWriter::new" .unit [pathObj "shm" parent]).okWith isMutEv
    = some (writerValue SEGMENT_SIZE,
        (Crash.newOps (Crash.fileAOf st) (parent != "")).map (opValue o (pathObj "shm" parent) (pathObj parent ""))) := by
  have hN : newAnswers fd (parent != "") st = openUsed fd st ++ (fixAnswers (parent != "") (Crash.fileAOf st) ++
      [.enumv "Ok" [.int .i32 fd], .enumv "Ok" [addr "segment"]]) := by
    simp [newAnswers, fixAnswers]
  have hin := answers_streamOf (newAnswers fd (parent != "") st)
  rw [hN, answers_append, answers_append, Nat.zero_add] at hin
  rw [← hN] at hin
  -- `is_usable_segment` through `ShmReader::new` on the prior state, then `new` itself
  obtain ⟨evs, _, hevs, -, hused, hnew⟩ := HeaderProof.reader_new_on none st hst fd hfd
  obtain rfl := hused rfl
  obtain ⟨ov, hrun, hord⟩ := new_run _ parent fd (Crash.fileAOf st) (readerOpen st) (usable_iff_open st) evs _
    (fun N s hs => usable_of_new _ parent _ evs _ s (fun N' s' hs' => hnew _ N' s' (hs' ▸ hs ▸ hin.1)) N) hin.2.1 hin.2.2
  obtain ⟨o, ho⟩ := Option.isSome_iff_exists.mp hord
  rw [ordValue_ordOfValue _ _ ho] at hrun
  refine ⟨o, ?_⟩
  -- of the events only the state-changing ones are compared
  rw [hrun]
  simp only [Outcome.okWith, List.append_assoc, List.filter_append, hevs, List.nil_append]
  rw [← List.filter_append, ← List.filter_append, ← List.append_assoc, newOps_events]

end ClockBound.Rs.WriterNewProof

/-
  `ShmReader::snapshot` is `SL.readerProg` (statement in `Properties/CodeTieSeqlock.lean`): the function up
  to its retry loop, the loop in whichever form the generated body has it (`while` with a counter,
  `Proofs/RsSnapWhile.lean`; `for` over a range, `Proofs/RsSnapFor.lean`), and the rest.
-/
import ClockBound.Proofs.RsSnapWhile
import ClockBound.Proofs.RsSnapFor
namespace ClockBound.Rs.SeqlockProof
open ClockBound ClockBound.Rs ClockBound.Generated ClockBound.Rs.DictShm ClockBound.Rs.EmbedShm

open scoped ClockBound.Rs.CallByValue
attribute [-rs_eval] DictShm.methodB DictShm.methodC DictShm.methodD DictShm.callC DictShm.callD

/-- `h : probeSt.log = <the two load events of the probe run>` (no event is written in a proof) -/
macro "eval_preLog " h:ident : tactic => `(tactic| (
  have $h : probeSt.log = probeSt.log := rfl
  conv at $h =>
    rhs
    simp only [probeSt_eq, probeVal]))

-- a finishing tactic that `snapshot_tie` does not use (it normalises both decision trees with the closed simp set first)
set_option hygiene false in
/-- the rest of the proof once the loop has been rewritten to `loopOutG ..` (`hspec` = `loopOutG_spec` for the
    layout at hand): split on what the MODEL's loop returns, finish the function, compare the decision trees -/
local macro "snap_tail " hspec:term : tactic => `(tactic| (
  eval_preLog hpl
  generalize hL : loopOutG _ _ _ _ _ _ _ _ _ = r
  have hs := $hspec _ _ _ _ hL
  clear hL
  simp only [SL.readerProg, readerOutcome]
  rcases hrl : SL.readerLoop snapAnn (typedInp inp) SL.RETRIES 2 (typedInp inp 1) with ⟨accs, _ | ⟨g', cells⟩⟩
  · rw [hrl] at hs
    obtain ⟨st', rfl, h2, h3⟩ := hs
    simp [rs_eval, h2, h3, resultValue, readerValue, wordsValue]
    split_ifs <;> simp_all [accValue, locValue, locTy, ordValue, ordering, snapAnn, hpl, evOrd, ordOfValue, evLoad] <;> omega
  · rw [hrl] at hs
    obtain ⟨st', rfl, h2, h3⟩ := hs
    simp [rs_eval, h2, h3, resultValue, readerValue, wordsValue]
    split_ifs <;> simp_all [accValue, locValue, locTy, ordValue, ordering, snapAnn, hpl, evOrd, ordOfValue, evLoad] <;> omega))

/-- `ShmReader::snapshot` is `SL.readerProg`, for every stream of load results, every cache, every fuel
    ≥ RETRIES + 200 -/
theorem snapshot_tie (inp : Nat → Nat) (cg : Nat) (cache : List Nat) (nowNs : Int) (sizes : List (String × Nat))
    (F : Nat) (hF : SL.RETRIES ≤ F) :
    runFuel (F + 200) (sctx nowNs sizes inp) "ShmReader::snapshot" (readerValue cg cache) []
    = readerOutcome (SL.readerProg snapAnn (typedInp inp) cg cache) := by
  -- the source literal `1_000_000` is the model's RETRIES (the only place where RETRIES is unfolded)
  have hR : ((SL.RETRIES : Nat) : Int) = 1000000 := rfl
  -- the loop, in the form the body has it (`rfl` fails for the other form), is `loopOutG ..` in the layout of that form
  first
  | (have hloop := loop_eq inp nowNs sizes _ _ rfl (typedInp inp 0) cg cache SL.RETRIES (by decide) .infer (Or.inl rfl)
        2 ⟨0, rfl⟩ (typedInp inp 1)
     have hgood := loopOutG_spec (typedInp inp) cg cache (LS .i32 (typedInp inp 0)) (goodMk_LSg _ _)
        SL.RETRIES (LS .infer (typedInp inp 0)) (goodMk_LSg _ _))
  | (have hloop := fun lg N h t => loop_eq_for inp nowNs sizes _ _ _ rfl (typedInp inp 0) cg cache SL.RETRIES t 0
        2 ⟨0, rfl⟩ (typedInp inp 1) lg N h
     have hgood := loopOutG_spec (typedInp inp) cg cache (LSf (typedInp inp 0)) (goodMk_LSf _ _ _ _ rfl)
        SL.RETRIES (LSf (typedInp inp 0)) (goodMk_LSf _ _ _ _ rfl))
  simp -implicitDefEqProofs only [LS, LSf, LSg, probeEnv, probeSt_eq, probeVal, relabel, rawInp, sfr, hR, Int.zero_add, readerValue,
    wordsValue, rs_eval, rs_base, rs_code] at hloop
  -- the function up to the loop: the version load, the generation load, the three early returns
  simp -implicitDefEqProofs only [rs_eval, rs_base, rs_code, readerValue, wordsValue, rawInp,
    typedInp_u16 inp (k := 0) rfl, typedInp_u16 inp (k := 1) rfl]
  rw [hloop _ _ (by omega)]
  -- what the MODEL's loop returns decides how the function ends
  generalize hL : loopOutG _ _ _ _ _ _ _ _ _ = r
  have hs := hL ▸ hgood _ _ _
  rcases hrl : SL.readerLoop snapAnn (typedInp inp) SL.RETRIES 2 (typedInp inp 1) with ⟨accs, _ | ⟨g', cells⟩⟩
  all_goals
    rw [hrl] at hs
    obtain ⟨st', h3, rfl, h2⟩ := hs
    -- both sides as decision trees with evaluated leaves: the rest of the function, then the model's program
    simp -implicitDefEqProofs only [rs_eval, rs_base, h2, h3]
    simp only [SL.readerProg, hrl, apply_ite readerOutcome]
    simp only [rs_eval, rs_base, readerOutcome, resultValue, readerValue, wordsValue, accValue, locValue, locTy, ordValue,
      snapAnn_eq, annVal, evLoad]
    -- a leaf has the same outcome on both sides, or contradictory tests above it
    split_ifs <;> first | rfl | omega

end ClockBound.Rs.SeqlockProof

/-
  `ShmReader::snapshot`, the retry loop in a `for _ in 0..MAX { .. }` form (seeded/harmless-2).  Every lemma
  is about the loop that `findFor` finds in the generated body; at HEAD (the `while` form,
  `Proofs/RsSnapWhile.lean`) there is none and the lemmas hold vacuously: `cases hcb` then leaves no goal, and
  `all_goals` nothing to do.
-/
import ClockBound.Proofs.RsSeqlock
namespace ClockBound.Rs.SeqlockProof
open ClockBound ClockBound.Rs ClockBound.Generated ClockBound.Rs.DictShm ClockBound.Rs.EmbedShm

open scoped ClockBound.Rs.CallByValue
attribute [-rs_eval] DictShm.methodB DictShm.methodC DictShm.methodD DictShm.callC DictShm.callD

/-- the loop state of the `for` form: the generic layout (`LSg`, read off the probe run); there is no counter -/
def LSf (v : Nat) : MkSt := fun _ g1 cg cache lg pos => LSg .infer v 0 g1 cg cache lg pos

theorem goodMk_LSf (v : Nat) (p : Pat) (it : Expr) (b : List Stmt)
    (hcb : findFor Code.fn_ShmReader__snapshot_stmts = some (p, it, b)) : GoodMk (LSf v) :=
  fun _ g1 cg cache lg pos => goodMk_LSg .infer v 0 g1 cg cache lg pos

/-- one item of the `for`: bind the pattern, run the body -/
theorem iter_for (inp : Nat → Nat) (nowNs : Int) (sizes : List (String × Nat)) (p : Pat) (it : Expr) (b : List Stmt)
    (hcb : findFor Code.fn_ShmReader__snapshot_stmts = some (p, it, b))
    (t : IntTy) (i : Int) (k g1 v cg : Nat) (cache : List Nat) (lg : List Value) (pos : Nat)
    (hpos : AttemptPos pos) (N : Nat) (hN : 30 ≤ N) (next : St → Res) (st : St) (hst : st = LSf v k g1 cg cache lg pos) :
    (orStuck "for: pattern without a rule" (matchPat N sfr.selfTy p (.int t i)) fun (_, bs) =>
      ((evalBlock N (sctx nowNs sizes inp) sfr b { st with env := bs ++ st.env }).popTo st.env.length).loopNext next)
    = attemptOut (typedInp inp) cg cache (LSf v) (LSf v) k pos g1 lg next := by
  cases hcb
  all_goals
    subst hst
    obtain ⟨M, rfl⟩ := Nat.exists_eq_add_of_le' hN
    simp -implicitDefEqProofs only [rs_eval, rs_base, rs_code, LSf, LSg, probeEnv, probeSt_eq, probeVal, relabel, sfr, rawInp, readerValue, wordsValue,
      readWords_attempt inp hpos, typedInp_u16 inp (loadCard_gen2 hpos), wordLoads_attempt, attemptOut, SL.attemptAccs, accValue,
      locValue, locTy,
      ordValue, snapAnn_eq, annVal, evLoad, evFence]
    split_ifs <;> simp_all <;> omega

/-- the `for` over `lo .. lo + k` (a budget of `k` attempts), for every fuel ≥ `k + 31` -/
theorem loop_eq_for (inp : Nat → Nat) (nowNs : Int) (sizes : List (String × Nat)) (p : Pat) (it : Expr) (b : List Stmt)
    (hcb : findFor Code.fn_ShmReader__snapshot_stmts = some (p, it, b)) (v cg : Nat) (cache : List Nat) :
    ∀ k (t : IntTy) (lo : Int) pos, AttemptPos pos → ∀ g1 lg N, k + 31 ≤ N →
      evalFor N (sctx nowNs sizes inp) sfr p b (intRange t lo (lo + (k : Nat))) (LSf v 0 g1 cg cache lg pos)
      = loopOutG (typedInp inp) cg cache (LSf v) (LSf v) k pos g1 lg := by
  intro k
  induction k with
  | zero =>
    intro t lo pos _ g1 lg N hN
    obtain ⟨M, rfl⟩ : ∃ M, N = M + 1 := ⟨N - 1, by omega⟩
    rw [intRange_nil _ _ _ (by omega), evalFor_nil]
    simp [loopOutG, LSf]
  | succ k ih =>
    intro t lo pos hpos g1 lg N hN
    obtain ⟨M, rfl⟩ : ∃ M, N = M + 1 := ⟨N - 1, by omega⟩
    rw [intRange_cons _ _ _ (by omega), evalFor_cons,
      iter_for inp nowNs sizes p it b hcb t lo 0 g1 v cg cache lg pos hpos M (by omega) _ _ rfl]
    rw [loopOutG, attemptOut]
    have e : lo + ((k + 1 : Nat) : Int) = (lo + 1) + ((k : Nat) : Int) := by omega
    split
    · rfl
    · rw [e]
      exact ih t (lo + 1) _ hpos.next _ _ M (by omega)

end ClockBound.Rs.SeqlockProof

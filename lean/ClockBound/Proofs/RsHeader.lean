/-
  Proofs of the translation tie for the header checks: `ShmHeader::is_valid` (+ helpers), `ShmHeader::read`,
  `ShmWriter::segment_size` (statements in `Properties/CodeTieHeader.lean`).

  Each function is evaluated once, as a call from an arbitrary interpreter state (`is_valid_call`, `read_call`,
  `segment_size_call`: any fuel above the callee's depth, any caller environment, log and stream position); a caller
  uses them as rewrite rules (`read` does so for `is_valid`, `ShmReader::new` in `Proofs/RsReaderNew.lean` for `read`,
  `ShmWriter::new` in `Proofs/RsWriterNew.lean` for `segment_size`), and the statements about `run` are their instances.
-/
import ClockBound.Proofs.RsShm
import ClockBound.Proofs.HeaderProg
namespace ClockBound.Rs.HeaderProof
open ClockBound ClockBound.Rs ClockBound.Generated ClockBound.Rs.DictShm ClockBound.Rs.EmbedShm

open scoped ClockBound.Rs.CallByValue

/-- the context: generated tables, the dictionary, the sizes of the two `repr(C)` structs -/
abbrev hctx (inp : Nat → Value) : Ctx := Code.ctxWith 0 DictShm.ext EmbedShm.sizes inp

/-- the error of a refused header (`notInit` is a filler for `.ok`) -/
def errOf : Except ShmErr Header → ShmErr
  | .error e => e
  | .ok _ => .notInit

/-- `Result<ShmHeader, ShmError>` of `ShmHeader::read`, by cases -/
theorem readValue_readProg (ret : Int) (errno : Nat) (h : Header) :
    readValue (readProg ret errno h)
    = if (readProg ret errno h).isOk then .enumv "Ok" [headerValue h]
      else .enumv "Err" [shmErrValue (errOf (readProg ret errno h))] := by
  cases hc : readProg ret errno h with
  | error e => rfl
  | ok a => rw [Proofs.readProg_ok hc]; rfl

/-- what `read(2)` returns on a regular file, as an `isize` -/
theorem readRet_range (bs : Bytes) : IntTy.isize.lo ≤ readRet bs ∧ readRet bs ≤ IntTy.isize.hi := by
  simp only [rs_eval]
  unfold readRet HEADER_SIZE
  omega

/-- the declared size of a header in range, as a `u64` (`segsize as u64`, `segsize as usize`) -/
theorem segsize_u64 {h : Header} (hh : h.inRange) : ((h.segsize : Nat) : Int) % 18446744073709551616 = h.segsize := by
  obtain ⟨_, _, hs, _, _⟩ := hh
  unfold TWO32 at hs
  omega

/-- what a call gives back to a caller in state `st`: the value `v` (no receiver), the events `evs` logged and `k`
    answers consumed -/
def returns (st : St) (v : Value) (evs : List Value) (k : Nat) : Res :=
  .val (.tuple [v, .unit]) { st with log := st.log ++ evs, pos := st.pos + k }

/-- the event of `read(2)` of the header from `fd` -/
def evRead (fd ret : Int) : Value :=
  evSys "read" [.int .i32 fd, .ext "ptr:buf" [], .int .usize HEADER_SIZE] (.int .isize ret)

/-- the event of reading `errno` after a failed system call -/
def evErrno (e : Nat) : Value := evSys "errno" [] (.int .i32 e)

/-- `header.is_valid()` from any state: `Ok(())` or the error of `checkHeader`; nothing is consumed or logged -/
theorem is_valid_call (h : Header) (hh : h.inRange) (inp : Nat → Value) (N : Nat) (st : St) :
    callDecl (N + 20) (hctx inp) Code.fn_ShmHeader__is_valid (headerValue h) [] st
    = if (checkHeader h).isOk then .val (.tuple [.enumv "Ok" [.tuple []], headerValue h]) st
      else .val (.tuple [.enumv "Err" [shmErrValue (errOf (checkHeader h))], headerValue h]) st := by
  simp -implicitDefEqProofs only [rs_eval, rs_base, rs_code, headerValue, EmbedShm.sizes, segsize_u64 hh]
  -- the model's tests in the form evaluation gives the code's: `split_ifs` then meets each test once
  simp only [checkHeader, MAGIC0, MAGIC1, Classical.not_and_iff_not_or_not]
  split_ifs <;> simp_all [errOf, Except.toBool, shmErrValue, HEADER_SIZE]

/-- the answers `ShmHeader::read` asks for: what `read(2)` returns; then `errno` if it failed, the content of the buffer
    if it was filled, nothing after a short read -/
def readAsked (ret : Int) (errno : Nat) (h : Header) : List Value :=
  .int .infer ret :: if ret < 0 then [.int .infer errno] else if ret < HEADER_SIZE then [] else [headerValue h]

/-- `ShmHeader::read(fd)` from any state -/
theorem read_call (ret : Int) (hret : IntTy.isize.lo ≤ ret ∧ ret ≤ IntTy.isize.hi) (errno : Nat) (he : errno ≤ 2147483647)
    (h : Header) (hh : h.inRange) (fd : Int) (inp : Nat → Value) (N : Nat) (st : St)
    (hin : Answers inp st.pos (readAsked ret errno h)) :
    callDecl (N + 40) (hctx inp) Code.fn_ShmHeader__read .unit [.int .i32 fd] st
    = if (readProg ret errno h).isOk then returns st (.enumv "Ok" [headerValue h]) [evRead fd ret] 2
      else returns st (.enumv "Err" [shmErrValue (errOf (readProg ret errno h))])
        (evRead fd ret :: if ret < 0 then [evErrno errno] else []) (readAsked ret errno h).length := by
  have hv := fun N st => is_valid_call h hh inp N st
  simp only [headerValue, atomicVal] at hv
  obtain ⟨hlo, hhi⟩ := hret
  simp only [rs_eval] at hlo hhi
  simp only [returns]
  -- which answer follows `ret` depends on the tests of `ret`: one evaluation per outcome of these (given in both
  -- forms, `ret < 0` and `0 ≤ ret`, for a source that tests the other one)
  by_cases hneg : ret < 0
  · simp only [readAsked, if_pos hneg, Answers, and_true] at hin ⊢
    have hneg' : ¬ 0 ≤ ret := by omega
    simp -implicitDefEqProofs only [rs_eval, rs_base, rs_code, EmbedShm.sizes, hin, hlo, hhi, hneg, hneg', he, readProg, errOf,
      Except.toBool, shmErrValue, Origin.text, evRead, evErrno, Nat.add_assoc]
  have hw : ret % 18446744073709551616 = ret := by omega
  have hneg' : 0 ≤ ret := by omega
  by_cases hshort : ret < HEADER_SIZE
  · simp only [readAsked, if_neg hneg, if_pos hshort, Answers, and_true] at hin ⊢
    simp -implicitDefEqProofs only [rs_eval, rs_base, rs_code, EmbedShm.sizes, hin, hlo, hhi, hneg, hneg', hw, hshort, readProg,
      errOf, Except.toBool, shmErrValue, evRead]
  simp only [readAsked, if_neg hneg, if_neg hshort, Answers, and_true] at hin ⊢
  simp -implicitDefEqProofs only [rs_eval, rs_base, rs_code, EmbedShm.sizes, hin, hlo, hhi, hneg, hw, hshort, ↓hv, headerValue,
    readProg, shmErrValue, evRead, Nat.add_assoc]

/-- `segment_size()` = 72, no effect -/
theorem segment_size_call (inp : Nat → Value) (N : Nat) (st : St) :
    callDecl (N + 60) (hctx inp) Code.fn_ShmWriter__segment_size .unit [] st
    = .val (.tuple [.int .usize 72, .unit]) st := by
  simp -implicitDefEqProofs only [rs_eval, rs_base, rs_code, EmbedShm.sizes, chkInt, HEADER_SIZE, RECORD_SIZE]

end ClockBound.Rs.HeaderProof

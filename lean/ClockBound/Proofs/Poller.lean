/-
  The poller model (Model/Poller.lean) for C13 and C12d: `pollStep` by kind of reply, the poller's
  state as the ghost of the C13 spec, runs by induction along `Poller.runFrom`, and the C13 oracle
  on the model's own run.
-/
import ClockBound.Model.Poller
namespace ClockBound

/-- saturation of `Instant::elapsed` is invisible to the `< 5 s` comparison -/
theorem PollerState.withinGrace_iff (s : PollerState) (tGrace : Int) :
    s.withinGrace tGrace = true ↔ tGrace - s.lastGood < GRACE_NS := by
  unfold PollerState.withinGrace Poller.elapsed GRACE_NS
  split <;> simp <;> omega

/-- a silent iteration (no reply, or a reply that is not Tracking) -/
theorem pollStep_silence (s : PollerState) (asOf : TimeSpec) (reply : ReplyKind) (tReply tGrace : Int)
    (phc : Option PhcCfg) (h : reply.isSilence = true) :
    pollStep s asOf reply tReply tGrace phc = (s, if s.withinGrace tGrace then .nrGrace else .nr) := by
  cases reply with
  | tracking t => cases h
  | none => rfl
  | other => rfl

/-- the sysfs file read for a Tracking reply `t`, if any: that of a configured PHC which is `t`'s
    reference -/
def consulted (phc : Option PhcCfg) (t : Tracking) : Option PhcFile :=
  match phc with
  | some cfg => if cfg.refid = t.refid then some cfg.file else none
  | none => none

/-- an accepted Tracking reply refreshes `last_tracking_data`; the message depends on the PHC only
    through the file consulted and what reading it gives -/
theorem pollStep_tracking (s : PollerState) (asOf : TimeSpec) (t : Tracking) (tReply tGrace : Int)
    (phc : Option PhcCfg) :
    pollStep s asOf (.tracking t) tReply tGrace phc = (⟨tReply⟩,
      match consulted phc t with
      | none => .data t 0 asOf
      | some f => match f.read with
        | some (some v) => .data t v asOf
        | some none => if PollerState.withinGrace ⟨tReply⟩ tGrace then .phcGrace else .phcFail
        | none => .panic) := by
  unfold pollStep consulted
  cases phc with
  | none => rfl
  | some cfg =>
    dsimp only
    split
    · dsimp only
      cases cfg.file.read with
      | none => rfl
      | some o => cases o <;> rfl
    · rfl

theorem consulted_phc (refid : Option Nat) (it : PollIter) (t : Tracking) :
    consulted (it.phc refid) t = if C13.refMatches refid t then some it.file else none := by
  cases refid <;> simp [consulted, PollIter.phc, C13.refMatches]

theorem PhcFile.read_eq_some {f : PhcFile} {v : Int} (h : f.read = some (some v)) : f = .ok v := by
  cases f <;> grind [PhcFile.read]

/-- a data message comes from a Tracking reply and carries the as-of the iteration was given; its
    PHC term is 0 or the value in the configured file -/
theorem pollStep_data_inv {s : PollerState} {asOf : TimeSpec} {reply : ReplyKind} {tReply tGrace : Int}
    {phc : Option PhcCfg} {t : Tracking} {p : Int} {a : TimeSpec}
    (h : (pollStep s asOf reply tReply tGrace phc).2 = .data t p a) :
    reply = .tracking t ∧ a = asOf ∧ (p = 0 ∨ ∃ cfg, phc = some cfg ∧ cfg.file = .ok p) := by
  unfold pollStep at h
  grind [PhcFile.read_eq_some]

/-- an iteration that does not panic ends with its (only) wait -/
theorem Poller.pollTrace_ends_with_wait (s : PollerState) (coarse : TimeSpec) (reply : ReplyKind) (tReply tGrace : Int)
    (phc : Option PhcCfg) (hp : (pollStep s coarse reply tReply tGrace phc).2 ≠ .panic) :
    ∃ pre, pollTrace s coarse reply tReply tGrace phc = pre ++ [.wait] ∧ PollEv.wait ∉ pre := by
  refine ⟨(pollTrace s coarse reply tReply tGrace phc).dropLast, ?_⟩
  fun_cases pollStep s coarse reply tReply tGrace phc <;> simp_all [pollTrace, pollStep]

/-- the poller's state is the spec's ghost: acceptance time of the latest Tracking reply, or the
    initial value `base` -/
theorem PollIter.step_lastGood (refid : Option Nat) (s : PollerState) (it : PollIter)
    (acc : Option Int) (base : Int) (h : s.lastGood = acc.getD base) :
    (it.step refid s).1.lastGood = (C13.accept acc it).getD base := by
  unfold PollIter.step C13.accept
  cases hr : it.reply with
  | tracking t => rw [pollStep_tracking]; rfl
  | none => rw [pollStep_silence _ _ _ _ _ _ rfl]; exact h
  | other => rw [pollStep_silence _ _ _ _ _ _ rfl]; exact h

theorem Poller.stateAfter_lastGood (refid : Option Nat) (pre : List PollIter) (s : PollerState)
    (acc : Option Int) (base : Int) (h : s.lastGood = acc.getD base) :
    (Poller.stateAfter refid s pre).lastGood = (pre.foldl C13.accept acc).getD base := by
  induction pre generalizing s acc with
  | nil => exact h
  | cons it rest ih => exact ih _ _ (PollIter.step_lastGood refid s it acc base h)

theorem Poller.stateAfter_init (tStart : Int) (refid : Option Nat) (pre : List PollIter) :
    (Poller.stateAfter refid (Poller.init tStart) pre).lastGood
      = (C13.lastAccepted pre).getD (tStart - GRACE_NS) :=
  Poller.stateAfter_lastGood refid pre (Poller.init tStart) none (tStart - GRACE_NS) rfl

/-- a run without panic in its prefix continues from the state after the prefix -/
theorem Poller.runFrom_append (refid : Option Nat) (pre post : List PollIter) :
    ∀ s : PollerState, PollMsg.panic ∉ Poller.runFrom refid s pre →
      Poller.runFrom refid s (pre ++ post)
        = Poller.runFrom refid s pre ++ Poller.runFrom refid (Poller.stateAfter refid s pre) post := by
  intro s
  fun_induction Poller.runFrom refid s pre with
  | case1 => intro _; rfl
  | case2 s it rest r hp => simp
  | case3 s it rest r hp ih =>
    intro h
    rw [List.mem_cons, not_or] at h
    rw [List.cons_append, Poller.runFrom, if_neg hp, ih h.2]
    rfl

theorem Poller.runFrom_length_le (refid : Option Nat) (its : List PollIter) :
    ∀ s : PollerState, (Poller.runFrom refid s its).length ≤ its.length := by
  intro s
  fun_induction Poller.runFrom refid s its with
  | case1 => exact Nat.le_refl _
  | case2 s it rest r hp => simp
  | case3 s it rest r hp ih => exact Nat.succ_le_succ ih

theorem Poller.runFrom_length_of_no_panic (refid : Option Nat) (its : List PollIter) :
    ∀ s : PollerState, PollMsg.panic ∉ Poller.runFrom refid s its →
      (Poller.runFrom refid s its).length = its.length := by
  intro s
  fun_induction Poller.runFrom refid s its with
  | case1 => intro _; rfl
  | case2 s it rest r hp => simp
  | case3 s it rest r hp ih =>
    intro h
    rw [List.mem_cons, not_or] at h
    rw [List.length_cons, List.length_cons, ih h.2]

/-- every message of a run is the message of one of its iterations, from some state -/
theorem Poller.runFrom_mem (refid : Option Nat) (its : List PollIter) (s : PollerState) (m : PollMsg)
    (h : m ∈ Poller.runFrom refid s its) : ∃ it ∈ its, ∃ s', m = (it.step refid s').2 := by
  fun_induction Poller.runFrom refid s its with
  | case1 => cases h
  | case2 s it rest r hp => exact ⟨it, List.mem_cons_self, s, (List.mem_singleton.1 h).trans hp.symm⟩
  | case3 s it rest r hp ih =>
    rcases List.mem_cons.1 h with rfl | h
    · exact ⟨it, List.mem_cons_self, s, rfl⟩
    · obtain ⟨it', hit', hm⟩ := ih h
      exact ⟨it', List.mem_cons_of_mem _ hit', hm⟩

/-- silences leave the poller's state alone -/
theorem Poller.runFrom_silences (refid : Option Nat) (s : PollerState) (its : List PollIter)
    (h : ∀ it ∈ its, it.reply.isSilence = true) :
    Poller.runFrom refid s its
      = its.map fun it => if s.withinGrace it.tGrace then PollMsg.nrGrace else .nr := by
  induction its with
  | nil => rfl
  | cons it rest ih =>
    have hs := pollStep_silence s it.asOf it.reply it.tReply it.tGrace (it.phc refid)
      (h it List.mem_cons_self)
    simp only [Poller.runFrom, PollIter.step, hs, List.map_cons]
    rw [if_neg (by split <;> nofun), ih fun j hj => h j (List.mem_cons_of_mem _ hj)]

/-- the message of a silent iteration, by the age of the latest accepted reply (of `tStart − 5 s`
    if there is none) at the grace read -/
theorem Poller.msgAfter_silence (tStart : Int) (refid : Option Nat) (pre : List PollIter)
    (it : PollIter) (hs : it.reply.isSilence = true) :
    Poller.msgAfter tStart refid pre it =
      if it.tGrace - (C13.lastAccepted pre).getD (tStart - GRACE_NS) < GRACE_NS then .nrGrace
      else .nr := by
  unfold Poller.msgAfter PollIter.step
  rw [pollStep_silence _ _ _ _ _ _ hs]
  simp only [PollerState.withinGrace_iff, Poller.stateAfter_init]

/-! ### the `Instant` readings of a run -/

theorem PollIter.readings_silence (refid : Option Nat) (it : PollIter)
    (h : it.reply.isSilence = true) : it.readings refid = [it.tGrace] := by
  unfold PollIter.readings
  cases hr : it.reply with
  | tracking t => rw [hr] at h; cases h
  | none => rfl
  | other => rfl

theorem pairwise_of_nonDecreasing : ∀ {l : List Int}, nonDecreasing l = true → l.Pairwise (· ≤ ·)
  | [], _ => .nil
  | [_], _ => List.pairwise_singleton _ _
  | a :: b :: rest, h => by
    simp only [nonDecreasing, Bool.and_eq_true, decide_eq_true_eq] at h
    have ih := pairwise_of_nonDecreasing h.2
    refine List.pairwise_cons.2 ⟨fun x hx => ?_, ih⟩
    rcases List.mem_cons.1 hx with rfl | hx
    · exact h.1
    · exact Int.le_trans h.1 (List.rel_of_pairwise_cons ih hx)

/-- the acceptance time of the latest Tracking reply is one of the run's readings -/
theorem C13.foldl_accept_mem (refid : Option Nat) (pre : List PollIter) :
    ∀ (acc : Option Int) (tL : Int), pre.foldl C13.accept acc = some tL →
      acc = some tL ∨ tL ∈ pre.flatMap (PollIter.readings refid) := by
  induction pre with
  | nil => exact fun acc tL h => Or.inl h
  | cons it rest ih =>
    intro acc tL h
    rw [List.flatMap_cons, List.mem_append]
    rcases ih _ _ h with h1 | h1
    · unfold C13.accept at h1
      cases hr : it.reply with
      | tracking t =>
        rw [hr] at h1
        cases h1
        exact Or.inr (Or.inl (by simp [PollIter.readings, hr]))
      | none => rw [hr] at h1; exact Or.inl h1
      | other => rw [hr] at h1; exact Or.inl h1
    · exact Or.inr (Or.inr h1)

/-! ### the C13 oracle on the model's own run (used by `C13.model_holds`) -/
namespace C13

theorem holdsIter_step (tStart : Int) (refid : Option Nat) (last : Option Int) (s : PollerState)
    (it : PollIter) (h : s.lastGood = last.getD (tStart - GRACE_NS)) :
    HoldsIter tStart refid last it (it.step refid s).2 = true := by
  unfold HoldsIter PollIter.step
  cases hr : it.reply
  case tracking t =>
    rw [pollStep_tracking, consulted_phc]
    cases hm : refMatches refid t
    · simp [hm]
    · cases hf : it.file with
      | ok v => cases hv : inI64 v <;> simp [hm, PhcFile.read, hv, PollMsg.isData]
      | unreadable =>
        by_cases hg : it.tGrace - it.tReply < GRACE_NS <;>
          simp [hm, PhcFile.read, PollerState.withinGrace_iff, hg]
        omega
      | unparsable => simp [hm, PhcFile.read, PollMsg.isData]
  all_goals
    rw [pollStep_silence _ _ _ _ _ _ rfl]
    simp only [PollerState.withinGrace_iff, h]
    cases last with
    | none =>
      by_cases hg : it.tGrace - (tStart - GRACE_NS) < GRACE_NS <;> simp [hg]
      omega
    | some tL =>
      by_cases hg : it.tGrace - tL < GRACE_NS <;> simp [hg]
      omega

theorem holdsFrom_runFrom (tStart : Int) (refid : Option Nat) (its : List PollIter) :
    ∀ (last : Option Int) (s : PollerState), s.lastGood = last.getD (tStart - GRACE_NS) →
      HoldsFrom tStart refid last its (Poller.runFrom refid s its) = true := by
  intro last s h
  fun_induction Poller.runFrom refid s its generalizing last with
  | case1 => rfl
  | case2 s it rest r hp =>
    simp only [HoldsFrom, if_true, List.isEmpty_nil, Bool.and_true]
    rw [← hp]
    exact holdsIter_step tStart refid last s it h
  | case3 s it rest r hp ih =>
    simp only [HoldsFrom, hp, if_false, Bool.and_eq_true]
    exact ⟨holdsIter_step tStart refid last s it h, ih _ (PollIter.step_lastGood refid s it last _ h)⟩

end C13

end ClockBound

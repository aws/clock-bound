/-
  Proofs for `Properties/SeqlockProg.lean`.

  * `rStep_eq_G`, `rStepG_control`: case analysis on the program counter;
  * `readerRunG_eq_prog`: one attempt of the retry loop is the `N` steps of the copy, unrolled once
    (`copy_phase`), then the fence, if any, and the re-check by cases (`attempt`); `loop` inducts on the retry
    budget with the fuel, position, generation, accumulator and ghost fields generalised. `RETRIES` is never
    unfolded: `loop` is about any positive budget;
  * `readerRunG_length`: a run performs at most one access per step (the C18 bound on the source);
  * `writerRun_eq_prog`: `rec` has seven elements, the 10 / 11 steps are unrolled.
-/
import ClockBound.Model.SeqlockProg
import ClockBound.Model.SeqlockSys
namespace ClockBound.SeqlockProg.Proofs
open ClockBound ClockBound.SL

theorem rStep_eq_G (a : Ann) (log : Log) (r : Reader) (pickCell pickMsg : Nat) :
    (rStep a log r pickCell pickMsg).1 = (rStepG a r pickCell (rAnswer a log r pickCell pickMsg)).1 ∧
    (rStep a log r pickCell pickMsg).2.1 = (rStepG a r pickCell (rAnswer a log r pickCell pickMsg)).2.1 := by
  unfold rStep rStepG rAnswer rNext
  cases r.pc <;> grind

theorem rStepG_control (a : Ann) (r : Reader) (pickCell v j j' : Nat) (vw vw' : View) :
    (rStepG a r pickCell (v, j, vw)).1.pc = (rStepG a r pickCell (v, j', vw')).1.pc ∧
    (rStepG a r pickCell (v, j, vw)).1.cacheGen = (rStepG a r pickCell (v, j', vw')).1.cacheGen ∧
    (rStepG a r pickCell (v, j, vw)).1.cache = (rStepG a r pickCell (v, j', vw')).1.cache ∧
    (rStepG a r pickCell (v, j, vw)).2 = (rStepG a r pickCell (v, j', vw')).2 := by
  unfold rStepG
  cases r.pc <;> grind

/-! ### the reader call -/

theorem range_7 : List.range 7 = [0, 1, 2, 3, 4, 5, 6] := by decide

/-- the copy of the `N` cells, in index order -/
theorem copy_phase (a : Ann) (inp : Nat → Nat) (f pos : Nat) (acc : List Acc)
    (view : View) (cg : Nat) (cache : List Nat) (gi ai g1 k : Nat) :
    readerRunG a inp (f + N) ⟨.copy g1 k (List.range N) [], view, cg, cache, gi, ai⟩ pos acc =
    readerRunG a inp f
      ⟨afterCopy a g1 k ((List.range N).map fun c => (c, inp (pos + c))).reverse, view, cg, cache, gi, ai⟩
      (pos + N) (acc ++ (List.range N).map fun c => Acc.load (.cell c) .relaxed (inp (pos + c))) := by
  simp [readerRunG, rStepG, rNext, range_7, N, Nat.add_assoc]

/-- one attempt, uniformly in the fence: it takes at most `N + 2` steps -/
theorem attempt (a : Ann) (inp : Nat → Nat) (fuel pos : Nat) (hfu : N + 2 ≤ fuel) (acc : List Acc)
    (view : View) (cg : Nat) (cache : List Nat) (gi ai g1 k : Nat) :
    ∃ (vw : View) (f : Nat), fuel ≤ f + (N + 2) ∧
    readerRunG a inp fuel ⟨.copy g1 k (List.range N) [], view, cg, cache, gi, ai⟩ pos acc =
    if g1 = inp (pos + N) then
      (⟨.idle, vw, g1, attemptCells inp pos, gi, gi⟩, some (.ok (attemptCells inp pos)),
        acc ++ attemptAccs a inp pos)
    else if k ≤ 1 then
      (⟨.idle, vw, cg, cache, gi, ai⟩, some .errNotInit, acc ++ attemptAccs a inp pos)
    else
      readerRunG a inp f
        ⟨.copy (if inp (pos + N) % 2 = 0 then inp (pos + N) else g1) (k - 1) (List.range N) [], vw,
          cg, cache, if inp (pos + N) % 2 = 0 then 0 else gi, ai⟩ (pos + N + 1) (acc ++ attemptAccs a inp pos) := by
  obtain ⟨f, rfl⟩ : ∃ f, fuel = f + 2 + N := ⟨fuel - 2 - N, by omega⟩
  -- the fence, if there is one, takes a step and changes the view
  refine ⟨a.rFence.elim view (fenceAcq view), if a.rFence.isSome then f else f + 1, by split <;> omega, ?_⟩
  rw [copy_phase]
  unfold N
  cases h : a.rFence <;> by_cases hg : g1 = inp (pos + 7) <;> by_cases hk : k ≤ 1 <;>
    simp [readerRunG, rStepG, rNext, afterCopy, h, attemptAccs, attemptCells, assemble, range_7, N, hg, hk]

/-- what `readerRunG_eq_prog` says of a run: all but the view and the ghost fields -/
def ctl (out : Reader × Option RResult × List Acc) : RPc × Nat × List Nat × Option RResult × List Acc :=
  (out.1.pc, out.1.cacheGen, out.1.cache, out.2)

/-- the retry loop of the machine is `readerLoop` -/
theorem loop (a : Ann) (inp : Nat → Nat) (k : Nat) :
    ∀ (fuel pos g1 : Nat) (acc : List Acc) (view : View) (cg : Nat) (cache : List Nat) (gi ai : Nat),
    0 < k → (N + 2) * k ≤ fuel →
    ctl (readerRunG a inp fuel ⟨.copy g1 k (List.range N) [], view, cg, cache, gi, ai⟩ pos acc) =
      match readerLoop a inp k pos g1 with
      | (accs, some (g, cells)) => (.idle, g, cells, some (.ok cells), acc ++ accs)
      | (accs, none) => (.idle, cg, cache, some .errNotInit, acc ++ accs) := by
  induction k with
  | zero => intros; omega
  | succ k ih =>
    intro fuel pos g1 acc view cg cache gi ai _ hfu
    rw [Nat.mul_add] at hfu
    obtain ⟨vw, f, hf, he⟩ := attempt a inp fuel pos (by omega) acc view cg cache gi ai g1 (k + 1)
    rw [he, readerLoop]
    by_cases hg : g1 = inp (pos + N)
    · simp [hg, ctl]
    · cases k with
      | zero => simp [hg, ctl, readerLoop]
      | succ k =>
        simp only [hg, if_false, show ¬ (k + 1 + 1 ≤ 1) by omega, Nat.add_sub_cancel]
        rw [ih _ _ _ _ _ _ _ _ _ (by omega) (by omega)]
        split <;> simp [*, List.append_assoc]

theorem readerRunG_eq_prog (a : Ann) (inp : Nat → Nat) (r : Reader) (fuel : Nat) (hf : stepBound ≤ fuel) :
    let out := readerRunG a inp fuel r.call 0 []
    let p := readerProg a inp r.cacheGen r.cache
    out.2.1 = some p.2.1 ∧ out.2.2 = p.1 ∧ out.1.cacheGen = p.2.2.1 ∧ out.1.cache = p.2.2.2 ∧ out.1.pc = .idle := by
  unfold stepBound at hf
  obtain ⟨f, rfl⟩ : ∃ f, fuel = f + 2 := ⟨fuel - 2, by omega⟩
  obtain ⟨pc, view, cg, cache, gi, ai⟩ := r
  by_cases hv : inp 0 = 0
  · simp [readerRunG, rStepG, Reader.call, readerProg, hv]
  · by_cases hg : inp 1 = 0 ∨ inp 1 = cg ∨ inp 1 % 2 = 1
    · simp [readerRunG, rStepG, rNext, Reader.call, readerProg, hv, hg]
    · have hl := loop a inp RETRIES f 2 (inp 1)
        [Acc.load .version a.rVersion (inp 0), Acc.load .gen a.rGen1 (inp 1)] view cg cache 0 ai
        (by decide) (by rw [Nat.mul_comm]; omega)
      simp only [ctl] at hl
      simp [readerRunG, rStepG, rNext, Reader.call, readerProg, hv, hg]
      generalize readerLoop a inp RETRIES 2 (inp 1) = L at hl ⊢
      rcases L with ⟨accs, _ | ⟨g, cells⟩⟩ <;> simp_all [Prod.ext_iff]

/-- every step of the reader machine adds at most one access -/
theorem readerRunG_length (a : Ann) (inp : Nat → Nat) :
    ∀ fuel r pos acc, (readerRunG a inp fuel r pos acc).2.2.length ≤ acc.length + fuel
  | 0, _, _, _ => by simp [readerRunG]
  | n + 1, r, pos, acc => by
    have hl := Option.length_toList_le (o := (rStepG a r 0 (inp pos, 0, r.view)).2.2)
    rw [readerRunG]
    split
    · simp only [List.length_append]
      omega
    · have := readerRunG_length a inp n (rStepG a r 0 (inp pos, 0, r.view)).1
        (if (rNext a r 0).isSome = true then pos + 1 else pos)
        (acc ++ (rStepG a r 0 (inp pos, 0, r.view)).2.2.toList)
      simp only [List.length_append] at this
      omega

/-! ### the writer -/

theorem writerRun_eq_prog (a : Ann) (log : Log) (w : Writer) (rec : List Nat) (hl : rec.length = N) :
    let n := 3 + N + (if a.wFence.isSome then 1 else 0)
    let out := writerRun a n log { w with pc := .loadGen rec }
    out.2.pc = .idle ∧
    ∃ msgs, out.1 = log ++ msgs ∧
      msgs.map (fun m => (m.loc, m.val)) = storesOf (writerProg a (latest log .gen) rec) := by
  match rec, hl with
  | [r0, r1, r2, r3, r4, r5, r6], _ =>
    cases h : a.wFence <;> simp [h, N, writerRun, wStep, storeMsg, range_7, writerProg, storesOf]

end ClockBound.SeqlockProg.Proofs

/-
  The translation tie for the chrony poller (statements in `Properties/CodeTiePoller.lean`), part 1: how the
  interpreter is run in this group, and the functions `run_clock_error_bound_poller` and `run` call.

  Evaluation is by value (`Proofs/RsEval.lean`), in the context `pctx`, a constant.  `get_tracking`,
  `is_within_grace_period`, `get_phc_error_bound_from_path` and `default` are tied to the model ON `callDecl`, from an
  arbitrary caller state; their callers rewrite with these equations (as pre-rules `↓`).
-/
import ClockBound.Proofs.RsNow
import ClockBound.Proofs.RsTurn
import ClockBound.Rs.EmbedTurn
namespace ClockBound.Rs.PollerProof
open ClockBound ClockBound.Rs ClockBound.Generated ClockBound.Rs.DictPoller ClockBound.Rs.NowProof

open scoped ClockBound.Rs.CallByValue

/-! string comparisons by `=`: the kernel checks the proofs of `String.reduceEq` (the first differing character) in
    microseconds, the definitional `String.reduceBEq` and the unfolding of `List.lookup` by evaluating `==` on the
    literals (10 ms each) -/

@[rs_eval] theorem str_beq (a b : String) : (a == b) = decide (a = b) := beq_eq_decide a b

@[rs_eval] theorem lookup_cons_ne {β : Type} {k a : String} {b : β} {es : List (String × β)} (h : ¬ k = a) :
    List.lookup k ((a, b) :: es) = List.lookup k es := by
  rw [List.lookup_cons, beq_false_of_ne h]

attribute [-rs_eval] List.lookup

/-! ### the context as a constant -/

/-- the group's context `ctxP nowNs [] inp` as a constant: the simplifier has its fields by the equations below, and the
    kernel cannot unfold it (`opaque`).  Where `simp` reduces a `match` on a value without a proof step, the kernel
    compares two `match`es by unfolding both, stays one step behind and evaluates every scrutinee on its way
    (`primCall ..`, `enumArity ctx.enums ..`, `lookupFn ctx.fns ..`): through a context it can unfold it runs the whole
    call, table scans by `String.decEq` included (3.5 M heartbeats for one call of a library function); here it stops
    at `ctx.enums`. -/
opaque pctxSpec (nowNs : Int) (inp : Nat → Value) : { c : Ctx // ctxP nowNs [] inp = c } := ⟨_, rfl⟩

def pctx (nowNs : Int) (inp : Nat → Value) : Ctx := (pctxSpec nowNs inp).1

theorem ctxP_eq (nowNs : Int) (inp : Nat → Value) : ctxP nowNs [] inp = pctx nowNs inp := (pctxSpec nowNs inp).2

@[rs_eval] theorem pctx_fns (n i) : (pctx n i).fns = Code.fns := ctxP_eq n i ▸ rfl
@[rs_eval] theorem pctx_consts (n i) : (pctx n i).consts = Code.consts := ctxP_eq n i ▸ rfl
@[rs_eval] theorem pctx_constTypes (n i) : (pctx n i).constTypes = Code.constTypes := ctxP_eq n i ▸ rfl
@[rs_eval] theorem pctx_structs (n i) : (pctx n i).structs = Code.structs := ctxP_eq n i ▸ rfl
@[rs_eval] theorem pctx_enums (n i) : (pctx n i).enums = Code.enums := ctxP_eq n i ▸ rfl
@[rs_eval] theorem pctx_nowNs (n i) : (pctx n i).nowNs = n := ctxP_eq n i ▸ rfl
@[rs_eval] theorem pctx_enumDiscr (n i) : (pctx n i).enumDiscr = Code.enumDiscr := ctxP_eq n i ▸ rfl
@[rs_eval] theorem pctx_sizes (n i) : (pctx n i).sizes = [] := ctxP_eq n i ▸ rfl
@[rs_eval] theorem pctx_inp (n i) : (pctx n i).inp = i := ctxP_eq n i ▸ rfl
@[rs_eval] theorem pctx_ext (n i) :
    (pctx n i).ext = ext [("CLOCK_REALTIME", clockId 0), ("CLOCK_MONOTONIC", clockId 6)] := by
  rw [← linuxUses_eq, ← ctxP_eq]
  rfl

/-- a method call on a `ClockErrorBoundPoller` resolves to the method of `impl ChronyOperations`: two scans of the table
    of functions (there is no inherent method; one impl has it), done here once and not at every call -/
@[rs_eval ↓] theorem methodDecl_poller (n i) (fs : List (String × Value)) :
    methodDecl (pctx n i).fns (pctx n i).enums (.struct "ClockErrorBoundPoller" fs) "get_tracking"
      = some Code.fn_ChronyOperations_for_ClockErrorBoundPoller__get_tracking ∧
    methodDecl (pctx n i).fns (pctx n i).enums (.struct "ClockErrorBoundPoller" fs) "is_within_grace_period"
      = some Code.fn_ChronyOperations_for_ClockErrorBoundPoller__is_within_grace_period := by
  simp only [rs_eval, rs_base, rs_code]

/-! ### the statements -/

/-- the frame of `run_clock_error_bound_poller` -/
abbrev frP : Frame := ⟨"chrony_poller", "", "()"⟩

/-- the PHC configuration an iteration sees -/
abbrev phcOf (refid : Option Nat) (file : PhcFile) : Option PhcCfg := refid.map fun r => ⟨r, file⟩

/-- the state at the top of the loop of `run_clock_error_bound_poller` with poller state `s` -/
abbrev topP (nowNs : Int) (inp : Nat → Value) (pre : List Stmt) (e : IterEnv) (s : PollerState) (refid : Option Nat)
    (log : List Value) (pos : Nat) : St :=
  topSt (ctxP nowNs [] inp) Code.fn_chrony_poller__run_clock_error_bound_poller (pollerArgs e s refid) pre log pos

/-- ONE TURN of the loop of `run_clock_error_bound_poller` (however it is written: `findLoop`) from its top state
    with poller state `s`: the thread panics where the model's message is `panic`; else, the events of `pollTrace`
    appended to the log and as many inputs consumed, the loop is over if `recv_timeout` returned `Ok(ThreadAbort)`
    and otherwise goes on from the top state with the model's new poller state -/
def IterStmt (e : IterEnv) (s : PollerState) (coarse : TimeSpec) (reply : ReplyKind) (tReply tGrace : Int)
    (refid : Option Nat) (file : PhcFile) : Prop :=
  ∀ (nowNs : Int) (inp : Nat → Value) (log : List Value) (pos : Nat) (pre : List Stmt) (c : Expr) (body : List Stmt)
    (_hfl : findLoop Code.fn_chrony_poller__run_clock_error_bound_poller_stmts = some (pre, c, body))
    (_hother : e.other ≠ "ReplyBody::Tracking") (_hsend : e.sendRes = okUnit)
    (_hin : inputsAt inp pos ((pollTrace s coarse reply tReply tGrace (phcOf refid file)).map (pollEvInput e)))
    (K : Nat) (_hK : 60 ≤ K),
    turnIs (ctxP nowNs [] inp) frP c body K
      (evalWhile (K + 2) (ctxP nowNs [] inp) frP c body (topP nowNs inp pre e s refid log pos))
      (if (pollStep s coarse reply tReply tGrace (phcOf refid file)).2 = .panic then .panic
       else if e.isAbort = true then
         .done (log ++ (pollTrace s coarse reply tReply tGrace (phcOf refid file)).map (pollEvValue e))
           (pos + (pollTrace s coarse reply tReply tGrace (phcOf refid file)).length)
       else .next (topP nowNs inp pre e (pollStep s coarse reply tReply tGrace (phcOf refid file)).1 refid
          (log ++ (pollTrace s coarse reply tReply tGrace (phcOf refid file)).map (pollEvValue e))
          (pos + (pollTrace s coarse reply tReply tGrace (phcOf refid file)).length)))

/-! ### the callees, on `callDecl` from an arbitrary caller state -/

/-- the fields of `pollerValue s` -/
def pollerFields (s : PollerState) : List (String × Value) := [("last_tracking_data", instant s.lastGood)]

/-- `pollerValue s` as the evaluation of its users has it: the name of the struct shows (by it method calls, `&mut`
    and parameter types resolve), its fields do not -/
abbrev pollerV (s : PollerState) : Value := .struct "ClockErrorBoundPoller" (pollerFields s)

theorem pollerValue_eq (s : PollerState) : pollerValue s = pollerV s := rfl

/-- a test inside a value, lifted out: the evaluation goes on in both branches -/
theorem Res.val_ite (c : Prop) [Decidable c] (a b : Value) (st : St) :
    Res.val (if c then a else b) st = if c then .val a st else .val b st := by
  split <;> rfl

section
variable (e : IterEnv) (nowNs : Int) (inp : Nat → Value) (env : List (String × Value)) (log : List Value) (pos : Nat)

/-- `is_within_grace_period` = the model's `withinGrace`; `tGrace` = the clock reading inside `elapsed()` -/
theorem grace_call (s : PollerState) (tGrace : Int) (h0 : inp pos = instant tGrace) (N : Nat) :
    callDecl (N + 20) (pctx nowNs inp) Code.fn_ChronyOperations_for_ClockErrorBoundPoller__is_within_grace_period
      (pollerV s) [] ⟨env, log, pos⟩
    = .val (.tuple [.bool (s.withinGrace tGrace), pollerV s]) ⟨env, log ++ [evInstantNow (instant tGrace)], pos + 1⟩ := by
  simp -implicitDefEqProofs only [rs_eval, rs_base, rs_code, pollerFields, PollerState.withinGrace, Poller.elapsed,
    GRACE_NS, h0]

/-- `get_tracking` when chronyd does not answer, or answers with another reply than Tracking: `None`, `self` as it was -/
theorem get_tracking_silence (hother : e.other ≠ "ReplyBody::Tracking") (s : PollerState) (reply : ReplyKind)
    (hr : reply.isSilence = true) (h0 : inp pos = replyValue e reply) (N : Nat) :
    callDecl (N + 20) (pctx nowNs inp) Code.fn_ChronyOperations_for_ClockErrorBoundPoller__get_tracking
      (pollerV s) [] ⟨env, log, pos⟩
    = .val (.tuple [.enumv "None" [], pollerV s]) ⟨env, log ++ [pollEvValue e (.query reply)], pos + 1⟩ := by
  cases reply with
  | tracking t => simp [ReplyKind.isSilence] at hr
  | none => simp -implicitDefEqProofs only [rs_eval, rs_base, rs_code, replyValue, pollEvValue, h0]
  | other =>
    simp -implicitDefEqProofs only [rs_eval, rs_base, rs_code, replyValue, pollEvValue, h0, hother]

/-- `get_tracking` on a Tracking reply: `Some(body)`, and `last_tracking_data` is the `Instant` read then -/
theorem get_tracking_tracking (s : PollerState) (t : Tracking) (tReply : Int)
    (h0 : inp pos = replyValue e (.tracking t)) (h1 : inp (pos + 1) = instant tReply) (N : Nat) :
    callDecl (N + 20) (pctx nowNs inp) Code.fn_ChronyOperations_for_ClockErrorBoundPoller__get_tracking
      (pollerV s) [] ⟨env, log, pos⟩
    = .val (.tuple [.enumv "Some" [trackingValue t], pollerV ⟨tReply⟩])
        ⟨env, log ++ [pollEvValue e (.query (.tracking t)), pollEvValue e (.readMono tReply)], pos + 1 + 1⟩ := by
  simp -implicitDefEqProofs only [rs_eval, rs_base, rs_code, pollerFields, replyValue, pollEvValue, h0, h1]

/-- `get_phc_error_bound_from_path` = the model's `PhcFile.read` of the state of the file -/
theorem phc_read_call (file : PhcFile) (h0 : inp pos = phcFileValue e file) (N : Nat) :
    callDecl (N + 20) (pctx nowNs inp) Code.fn_chrony_poller__get_phc_error_bound_from_path .unit [pathBuf e.path]
      ⟨env, log, pos⟩
    = match file.read with
      | some (some v) =>
        .val (.tuple [.enumv "Ok" [.int .i64 v], .unit]) ⟨env, log ++ [pollEvValue e (.readPhc file)], pos + 1⟩
      | some none =>
        .val (.tuple [.enumv "Err" [.opaque "io::Error"], .unit]) ⟨env, log ++ [pollEvValue e (.readPhc file)], pos + 1⟩
      | none => .panic := by
  cases file with
  | ok v =>
    -- `parse` returns `if v is an i64 then Ok(v) else Err(_)`: one evaluation, the test lifted out of the value
    simp -implicitDefEqProofs only [rs_eval, rs_base, rs_code, phcFileValue, pollEvValue, Res.val_ite, h0]
    unfold PhcFile.read inI64 I64_MIN I64_MAX
    split <;> simp [*]
  | unparsable => simp -implicitDefEqProofs only [rs_eval, rs_base, rs_code, phcFileValue, PhcFile.read, h0]
  | unreadable =>
    cases ha : e.atOpen <;>
    simp -implicitDefEqProofs only [rs_eval, rs_base, rs_code, phcFileValue, pollEvValue, PhcFile.read, h0, ha]

/-- `impl Default` = the model's `Poller.init`: the `unwrap` panics exactly when `checked_sub` leaves the range of an
    `Instant` -/
theorem default_call (tStart : Int) (h0 : inp pos = instant tStart) (N : Nat) :
    callDecl (N + 20) (pctx nowNs inp) Code.fn_Default_for_ClockErrorBoundPoller__default .unit [] ⟨env, log, pos⟩
    = if instantLo ≤ tStart - GRACE_NS then
        .val (.tuple [pollerV (Poller.init tStart), .unit]) ⟨env, log ++ [evInstantNow (instant tStart)], pos + 1⟩
      else .panic := by
  simp -implicitDefEqProofs only [rs_eval, rs_base, rs_code, pollerV, pollerFields, Poller.init, GRACE_NS, Res.val_ite, h0]

end

end ClockBound.Rs.PollerProof

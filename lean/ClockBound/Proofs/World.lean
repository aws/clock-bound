/-
  For C01 and C12: provenance of everything the daemon publishes (`PInv`: each record is `C08.spec`
  of outcomes of the history), and a client query on a daemon record in closed form.
-/
import ClockBound.Model.World
import ClockBound.Proofs.Daemon
namespace ClockBound
open TimeSpec

/-! ### provenance -/

/-- the outcomes of the events `all`, as the writer thread sees them -/
def outcomes (w : World) (all : List WEvent) : List PollOutcome :=
  all.filterMap fun e => (e.msg w).map abstractMsg

/-- a synchronised report among the outcomes is that of a poll event -/
theorem mem_outcomes {w : World} {all : List WEvent} {b : Int} {a : TimeSpec}
    (h : .report b .synchronized a ∈ outcomes w all) :
    ∃ ta tq tp t phc g, WEvent.poll ta tq tp (some t) phc g ∈ all ∧
      classify t (w.Rc tp).floor = .synchronized ∧
      b = boundF t + phc ∧ a = TimeSpec.ofNs (w.Mc ta).floor := by
  obtain ⟨e, he, hm⟩ := List.mem_filterMap.1 h
  cases e with
  | restart => cases hm
  | poll ta tq tp reply phc g =>
    cases reply with
    | none => cases hm
    | some t =>
      injection hm with hm
      injection hm with hb hc ha
      exact ⟨ta, tq, tp, t, phc, g, he, hc, hb.symm, ha.symm⟩

/-- provenance invariant of the daemon state w.r.t. the whole history `all`: across restarts and
    panics, the updater has seen, and every record was published after, a list of outcomes of `all`
    from a fresh updater; so the record is C08's `spec` of that list -/
structure PInv (w : World) (all : List WEvent) (d : DaemonState) : Prop where
  u : ∃ os, os ⊆ outcomes w all ∧ d.u = os.foldl Updater.after (Updater.new w.rho)
  pub : ∀ r ∈ d.published, ∃ os, os ⊆ outcomes w all ∧ r = C08.spec w.rho os

theorem PInv.step {w : World} {all : List WEvent} {d : DaemonState} (inv : PInv w all d)
    {e : WEvent} (he : e ∈ all) : PInv w all (d.step w e) := by
  cases e with
  | restart => exact ⟨⟨[], List.nil_subset _, rfl⟩, inv.pub⟩
  | poll ta tq tp reply phc g =>
    obtain ⟨m, hm⟩ : ∃ m, (WEvent.poll ta tq tp reply phc g).msg w = some m := by
      cases reply <;> exact ⟨_, rfl⟩
    simp only [DaemonState.step, hm]
    cases hs : d.u.step m with
    | none => exact inv
    | some p =>
      obtain ⟨u', r⟩ := p
      obtain ⟨rfl, rfl⟩ := Updater.step_some hs
      obtain ⟨os, hos, hu⟩ := inv.u
      have hos' : os ++ [abstractMsg m] ⊆ outcomes w all :=
        List.append_subset.2 ⟨hos, List.cons_subset.2
          ⟨List.mem_filterMap.2 ⟨_, he, by rw [hm]; rfl⟩, List.nil_subset _⟩⟩
      have hu' : d.u.after (abstractMsg m) =
          (os ++ [abstractMsg m]).foldl Updater.after (Updater.new w.rho) := by
        rw [List.foldl_append, ← hu]; rfl
      refine ⟨⟨_, hos', hu'⟩, fun r hr => ?_⟩
      rcases List.mem_cons.1 hr with rfl | hr
      · exact ⟨_, hos', by rw [hu', Updater.pub_foldl_after]⟩
      · exact inv.pub r hr

theorem PInv.run (w : World) (evs : List WEvent) : PInv w evs (DaemonState.run w evs) :=
  List.foldlRecOn evs _ ⟨⟨[], List.nil_subset _, rfl⟩, fun _ h => absurd h List.not_mem_nil⟩
    fun _ inv _ he => inv.step he

/-! ### a client query on a record of the daemon -/

/-- a client query at realtime reading `R` and monotonic reading `M` on a record stamped at the
    monotonic reading `A` and void 1000 s later: an answer other than Unknown comes before the
    record is 1000 s old and has half-width `bound + growth (M - A) drift` -/
theorem computeBoundAt_ofNs {r : Record} {A M R : Int} (ha : r.asOf = TimeSpec.ofNs A)
    (hv : r.voidAfter = ⟨r.asOf.sec + 1000, 0⟩) (hA : 0 ≤ A) (hAM : A ≤ M)
    (hM : M < 2147483648000000000) (hR0 : 0 ≤ R) (hR1 : R < 2147483648000000000)
    (hb0 : 0 ≤ r.bound) (hb1 : r.bound < 1152921504606846976) {e l : TimeSpec} {st : Status}
    (hout : computeBoundAt r (TimeSpec.ofNs R) (TimeSpec.ofNs M) = .ok e l st)
    (hst : st ≠ .unknown) :
    M - A < 1000000000000 ∧ e.toNs = R - (r.bound + growth (M - A) r.drift) ∧
    l.toNs = R + (r.bound + growth (M - A) r.drift) := by
  have hatons : r.asOf.toNs = A := by rw [ha]; exact ofNs_toNs A
  have hx : (⟨r, TimeSpec.ofNs R, TimeSpec.ofNs M⟩ : ClientIn).InRange :=
    ⟨by rw [ha]; exact ofNs_inRange hA (by omega), by rw [hv]; exact ⟨le_refl _, (by decide : (0 : Int) < NANOS)⟩,
      ofNs_inRange hR0 hR1, ofNs_inRange (by omega) hM, hb0, hb1⟩
  obtain ⟨_, _, hste, he, hl, _⟩ := ok_closed _ hx e l st hout
  have hage : (⟨r, TimeSpec.ofNs R, TimeSpec.ofNs M⟩ : ClientIn).age = M - A := by
    rw [age_eq_max]; simp only [ofNs_toNs, hatons]; omega
  simp only [ofNs_toNs, hage] at he hl
  refine ⟨?_, he, hl⟩
  -- past void-after the client says Unknown
  have hvns : r.voidAfter.toNs ≤ A + 1000000000000 := by
    rw [hv, ha]
    unfold TimeSpec.toNs NANOS
    simp only [ofNs_sec]
    omega
  by_contra hc
  apply hst
  rw [hste, C06.expected_eq]
  simp only [ofNs_toNs, hatons]
  rw [if_neg (show ¬ M < A + 5000000000 by omega), if_neg (show ¬ M < r.voidAfter.toNs by omega),
    ite_self]

end ClockBound

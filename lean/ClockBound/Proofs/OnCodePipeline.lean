/-
  Bridging lemmas for `Properties/OnCodePipeline.lean`: the messages the poller sends, seen as the messages the
  writer thread receives.
-/
import ClockBound.Proofs.OnCodePoller
import ClockBound.Properties.OnCodeDispatch
namespace ClockBound.OnCode
open ClockBound ClockBound.Rs ClockBound.Generated ClockBound.Rs.DictPoller

/-- a message the poller sent, as a message in the writer's mailbox (`panic` is not a message: mapped to one the
    writer ignores) -/
def wmsgOf : PollMsg → WMsg
  | .data t p a => .data t p a
  | .nrGrace => .nrGrace
  | .nr => .nr
  | .phcGrace => .phcGrace
  | .phcFail => .phcFail
  | .panic => .ignored "" []

/-- `Ok(m)`: what `recv()` returns for a message `m` that is in the mailbox -/
def okOf (m : Value) : Value := .enumv "Ok" [m]

theorem wmsgOf_recvd (m : PollMsg) (h : m ≠ .panic) : (wmsgOf m).recvd = okOf (pollMsgValue m) := by
  cases m <;> first | rfl | exact absurd rfl h

theorem wmsgOf_toMsg (nowNs : Int) (m : PollMsg) : (wmsgOf m).toMsg nowNs = m.toWriter nowNs := by
  cases m <;> rfl

theorem wmsgOf_wf (m : PollMsg) : (wmsgOf m).wf = true := by
  cases m <;> rfl

/-- no `i64` overflow in the writer thread while it handles what this iteration makes the poller send:
    `as_of.tv_sec + 1000`, and `bound + phc` for the PHC term the poller can attach (0, or the sysfs value) -/
def noOverflow (x : IterIn) : Prop :=
  ∀ t, x.it.reply = .tracking t →
    inI64 (x.it.asOf.sec + 1000) = true ∧ ∀ v, (v = 0 ∨ x.it.file = .ok v) → inI64 (boundF t + v) = true

/-- under `noOverflow` every message of a run is one the updater handles without overflow -/
theorem run_msgs_ok (nowNs : Int) (refid : Option Nat) (xs : List IterIn) (s : PollerState)
    (hnov : ∀ x ∈ xs, noOverflow x) :
    ∀ w ∈ (Poller.runFrom refid s (xs.map IterIn.it)).filterMap (PollMsg.toWriter nowNs), w.ok = true := by
  intro w hw
  obtain ⟨m, hm, hmw⟩ := List.mem_filterMap.1 hw
  obtain ⟨it, hit, s', rfl⟩ := Poller.runFrom_mem refid _ s m hm
  obtain ⟨x, hx, rfl⟩ := List.mem_map.1 hit
  cases hstep : (x.it.step refid s').2 <;> rw [hstep] at hmw <;> cases hmw
  case data t p a =>
    obtain ⟨hr, rfl, hp⟩ := pollStep_data_inv hstep
    obtain ⟨h1, h2⟩ := hnov x hx t hr
    have hp' : p = 0 ∨ x.it.file = .ok p := by
      cases refid <;> simp_all [PollIter.phc]
    simp [Msg.ok, h1, h2 p hp']
  all_goals rfl

end ClockBound.OnCode

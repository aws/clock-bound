/-
  The closed forms of `Model/HeaderProg.lean`: what a successful check returns, what `read(2)` returns on a regular
  file, and that `readHeader` / `readerOpenLim` (`Model/Header.lean`) on the bytes of a regular file are these closed
  forms (the tie proofs rewrite with these, `Properties/HeaderProg.lean` states them).
-/
import ClockBound.Model.HeaderProg
import Mathlib.Tactic.SplitIfs
namespace ClockBound.Proofs
open ClockBound

theorem checkHeader_ok {h a : Header} (hc : checkHeader h = .ok a) : a = h := by
  unfold checkHeader at hc
  split_ifs at hc
  exact (Except.ok.inj hc).symm

theorem readProg_ok {ret : Int} {errno : Nat} {h a : Header} (hc : readProg ret errno h = .ok a) : a = h := by
  unfold readProg at hc
  split_ifs at hc
  exact checkHeader_ok hc

/-- only a filled buffer is looked at -/
theorem readProg_isOk {ret : Int} {errno : Nat} {h : Header} (hok : (readProg ret errno h).isOk) :
    ¬ ret < 0 ∧ ¬ ret < HEADER_SIZE := by
  unfold readProg at hok
  split_ifs at hok <;> first | exact ⟨‹_›, ‹_›⟩ | cases hok

theorem readRet_nonneg (bs : Bytes) : ¬ readRet bs < 0 := by
  unfold readRet
  omega

theorem readRet_lt (bs : Bytes) : readRet bs < HEADER_SIZE ↔ bs.length < HEADER_SIZE := by
  unfold readRet
  omega

theorem readHeader_eq_prog (bs : Bytes) : readHeader bs = readProg (readRet bs) 0 (parseHeader bs) := by
  unfold readHeader readProg readRet checkHeader HEADER_SIZE
  grind

theorem readerOpenLim_eq_prog (lim : Option Nat) (bs : Bytes) :
    readerOpenLim lim (.file bs)
    = match readProg (readRet bs) 0 (parseHeader bs) with
      | .error e => .error e
      | .ok h => mapProg (mapFails lim h.segsize) ENOMEM h := by
  rw [← readHeader_eq_prog]
  unfold readerOpenLim mapProg mapFails SEGMENT_SIZE HEADER_SIZE RECORD_SIZE
  rcases hr : readHeader bs with e | h
  · simp [hr]
  · cases lim <;> simp [hr]

end ClockBound.Proofs

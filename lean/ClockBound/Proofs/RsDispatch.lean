/-
  Proofs of the translation tie for `process_messages` (statements in `Properties/CodeTieDispatch.lean`): one turn of
  its loop per kind of message, for every fuel `N ≥ 100`.  The turn is evaluated up to the call of the handler, which
  is rewritten with the handler's equation (`UpdaterProof.call_data`, `call_missing`): what is left is the model's
  `Updater.step` under an `orPanic`, and the rest of the loop applied to the state `Updater.step` gives.
-/
import ClockBound.Proofs.RsNow
import ClockBound.Proofs.RsTurn
import ClockBound.Proofs.RsUpdater
import ClockBound.Rs.EmbedTurn
namespace ClockBound.Rs.DispatchProof
open ClockBound ClockBound.Rs ClockBound.Generated ClockBound.Rs.DictPoller ClockBound.Rs.NowProof

open scoped ClockBound.Rs.CallByValue

abbrev frW : Frame := ⟨"shm_writer", "", "()"⟩

/-- the state at the top of the loop of `process_messages` with updater state `u` (computed: `Rs.topSt`) -/
abbrev topW (nowNs : Int) (inp : Nat → Value) (pre : List Stmt) (u : Updater) (log : List Value) (pos : Nat) : St :=
  topSt (ctxP nowNs [] inp) Code.fn_shm_writer__process_messages (writerArgs u) pre log pos

set_option hygiene false in
/-- the start of every proof about a turn: the loop located, its top states computed (`Rs.topSt`: the statements before
    the loop, run), one unfolding of the loop with the rest of the loop as an opaque function `W` (the loop body would be
    repeated in every leaf).  Everything that `rs_eval` merely unfolds (embeddings, objects of the dictionary) is
    unfolded first: such a step inside the scrutinee of the first `bind` would make simp drop the congruence rule there
    and evaluate the whole turn under a binder. -/
macro "disp_start" : tactic => `(tactic| (
  intro inp log pos pre c body hfl hin K hK
  obtain ⟨M, rfl⟩ : ∃ M, K = M + 100 := ⟨K - 100, by omega⟩
  simp only [rs_eval, rs_base, rs_code] at hfl
  obtain ⟨rfl, rfl, rfl⟩ := hfl
  simp only [ctxP, topW, linuxUses_eq, writerArgs, contextValue, updaterValue, trackingValue, ctimespecValue,
    WMsg.recvd, WMsg.value, WMsg.toMsg, recvAbort, DictPoller.ext, dispatchBox, receiver, clockId] at hin ⊢
  simp -implicitDefEqProofs only [rs_eval, rs_base, rs_code]
  rw [turnIs_W, evalWhile_succ]
  generalize hW : evalWhile _ _ _ _ _ = W))

/-- ONE TURN of the loop of `process_messages` (however it is written) on the message `m` -/
theorem disp_iter (nowNs : Int) (u : Updater) (m : WMsg) (hwf : m.wf = true) :
    ∀ (inp : Nat → Value) (log : List Value) (pos : Nat) (pre : List Stmt) (c : Expr) (body : List Stmt)
      (_hfl : findLoop Code.fn_shm_writer__process_messages_stmts = some (pre, c, body))
      (_hin : inp pos = m.recvd) (K : Nat) (_hK : 100 ≤ K),
      turnIs (ctxP nowNs [] inp) frW c body K
        (evalWhile (K + 2) (ctxP nowNs [] inp) frW c body (topW nowNs inp pre u log pos))
        (match m.toMsg nowNs with
         | none => .next (topW nowNs inp pre u (log ++ [evRecv m.recvd]) (pos + 1))
         | some msg =>
           match u.step msg with
           | none => .panic
           | some (u', r) => .next (topW nowNs inp pre u' (log ++ [evRecv m.recvd, recordValue r]) (pos + 1))) := by
  obtain ⟨drift, fsm, bound, ⟨as, an⟩, res, hmeas⟩ := u
  have hd := fun drift fsm bound as an res hm leap refNs offW dispW delayW intervalW refid phc s n ext inp =>
    UpdaterProof.call_data ⟨drift, fsm, bound, ⟨as, an⟩, res, hm⟩ ⟨leap, refNs, offW, dispW, delayW, intervalW, refid⟩
      phc ⟨s, n⟩ nowNs ext [] inp
  have hm := fun drift fsm bound as an res hm g ext inp =>
    UpdaterProof.call_missing ⟨drift, fsm, bound, ⟨as, an⟩, res, hm⟩ g nowNs ext [] inp
  simp only [updaterValue, trackingValue, ctimespecValue, UpdaterProof.updaterRes] at hd hm
  rcases m with ⟨⟨leap, refNs, offW, dispW, delayW, intervalW, refid⟩, phc, ⟨s, n⟩⟩ | _ | _ | _ | _ | ⟨v, args⟩
  case ignored =>
    simp [WMsg.wf, handledVariant] at hwf
    disp_start
    simp -implicitDefEqProofs only [rs_eval, rs_base, rs_code, hin, hwf]
    rfl
  all_goals
    disp_start
    simp -implicitDefEqProofs only [rs_eval, rs_base, rs_code, hin, ↓hd, ↓hm, Ext.Conservative]
    generalize Updater.step _ _ = o
    rcases o with _ | ⟨u', r⟩ <;> rfl

/-- `Ok(Message::ThreadAbort)` ends the loop; nothing is written -/
theorem disp_abort (nowNs : Int) (u : Updater) (inp : Nat → Value) (log : List Value) (pos : Nat) (pre : List Stmt)
    (c : Expr) (body : List Stmt)
    (hfl : findLoop Code.fn_shm_writer__process_messages_stmts = some (pre, c, body))
    (hin : inp pos = recvAbort) (K : Nat) (hK : 100 ≤ K) :
    turnIs (ctxP nowNs [] inp) frW c body K
      (evalWhile (K + 2) (ctxP nowNs [] inp) frW c body (topW nowNs inp pre u log pos))
      (.done (log ++ [evRecv recvAbort]) (pos + 1)) := by
  revert inp log pos pre c body hfl hin K hK
  disp_start
  simp -implicitDefEqProofs only [rs_eval, rs_base, rs_code, hin, turnIsW_done]
  -- a loop that ends by `break` is over here (nothing is left to show); one that ends by its flag evaluates its
  -- condition once more
  first
    | done
    | subst hW
      exact ⟨_, evalWhile_false (h := by simp -implicitDefEqProofs only [rs_eval, rs_base, rs_code]) .., rfl, rfl, rfl⟩

end ClockBound.Rs.DispatchProof

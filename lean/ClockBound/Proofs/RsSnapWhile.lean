/-
  `ShmReader::snapshot`, the retry loop in its `while retries > 0 { .. retries -= 1; }` form (the form of the
  source at HEAD).  Every lemma is about the loop that `findWhile` finds in the generated body; if the body
  has no `while` (the `for` form, `Proofs/RsSnapFor.lean`) the lemmas hold vacuously: `cases hcb` then leaves
  no goal, and `all_goals` nothing to do.
-/
import ClockBound.Proofs.RsSeqlock
namespace ClockBound.Rs.SeqlockProof
open ClockBound ClockBound.Rs ClockBound.Generated ClockBound.Rs.DictShm ClockBound.Rs.EmbedShm

open scoped ClockBound.Rs.CallByValue
attribute [-rs_eval] DictShm.methodB DictShm.methodC DictShm.methodD DictShm.callC DictShm.callD

/-- the loop state of the `while` form: the generic layout (`LSg`, read off the probe run) -/
abbrev LS (t : IntTy) (v : Nat) : MkSt := LSg t v

/-- The retry counter is initialised by an unsuffixed literal: its type is `{integer}` before the first
    `retries -= 1` and `i32` (the dictionary's fallback) after it.  Against another unsuffixed literal the operation
    is on `i32` in both cases, so the loop is evaluated once, for either type. -/
theorem binOp_counter (op : BinOp) (t : IntTy) (ht : t = .infer ∨ t = .i32) (x y : Int) (st : St) :
    binOp op (litFallback (some .i32) (.int t x) (.int .infer y)).1 (litFallback (some .i32) (.int t x) (.int .infer y)).2 st
    = binOp op (.int .i32 x) (.int .i32 y) st := by
  rcases ht with rfl | rfl
  · rfl
  · cases op <;> rfl

section
variable {inp : Nat → Nat} {nowNs : Int} {sizes : List (String × Nat)} {c : Expr} {b : List Stmt}
  (hcb : findWhile Code.fn_ShmReader__snapshot_stmts = some (c, b))
  {t : IntTy} (ht : t = .infer ∨ t = .i32) {k g1 v cg : Nat} {cache : List Nat} {lg : List Value} {pos : Nat}
include hcb ht

/-- the loop condition `retries > 0` -/
theorem cond_eq (N : Nat) (hN : 30 ≤ N) :
    eval N (sctx nowNs sizes inp) sfr c (LS t v k g1 cg cache lg pos)
    = .val (.bool (decide (0 < k))) (LS t v k g1 cg cache lg pos) := by
  cases hcb
  all_goals
    obtain ⟨M, rfl⟩ := Nat.exists_eq_add_of_le' hN
    simp -implicitDefEqProofs only [rs_eval, rs_base, rs_code, LSg, probeEnv, probeSt_eq, probeVal, relabel, readerValue, wordsValue, sfr,
      binOp_counter _ t ht]

/-- one run of the loop body -/
theorem iter_eq (hk : k + 1 ≤ 2147483647) (hpos : AttemptPos pos) (N : Nat) (hN : 30 ≤ N) (next : St → Res) :
    ((evalBlock N (sctx nowNs sizes inp) sfr b (LS t v (k + 1) g1 cg cache lg pos)).popTo
        (LS t v (k + 1) g1 cg cache lg pos).env.length).loopNext next
    = attemptOut (typedInp inp) cg cache (LS t v) (LS .i32 v) k pos g1 lg next := by
  cases hcb
  all_goals
    obtain ⟨M, rfl⟩ := Nat.exists_eq_add_of_le' hN
    have hchk := fun st => chkInt_ok .i32 k st (by decide) (i32_range (by omega)).1 (i32_range (by omega)).2
    simp -implicitDefEqProofs only [rs_eval, rs_base, rs_code, LSg, probeEnv, probeSt_eq, probeVal, relabel, sfr, rawInp, readerValue, wordsValue,
      readWords_attempt inp hpos, typedInp_u16 inp (loadCard_gen2 hpos), wordLoads_attempt, hchk, attemptOut, SL.attemptAccs,
      accValue, locValue, locTy, ordValue, snapAnn_eq, annVal, evLoad, evFence, binOp_counter _ t ht]
    split_ifs <;> simp_all <;> omega

end

/-- the loop of `ShmReader::snapshot` with a budget of `k` retries, for every fuel ≥ `k + 31` -/
theorem loop_eq (inp : Nat → Nat) (nowNs : Int) (sizes : List (String × Nat)) (c : Expr) (b : List Stmt)
    (hcb : findWhile Code.fn_ShmReader__snapshot_stmts = some (c, b)) (v cg : Nat) (cache : List Nat) :
    ∀ k, k ≤ 2147483647 → ∀ t, (t = .infer ∨ t = .i32) → ∀ pos, AttemptPos pos → ∀ g1 lg N, k + 31 ≤ N →
      evalWhile N (sctx nowNs sizes inp) sfr c b (LS t v k g1 cg cache lg pos)
      = loopOutG (typedInp inp) cg cache (LS .i32 v) (LS t v) k pos g1 lg := by
  intro k
  induction k with
  | zero =>
    intro _ t ht pos _ g1 lg N hN
    obtain ⟨M, rfl⟩ : ∃ M, N = M + 1 := ⟨N - 1, by omega⟩
    rw [evalWhile_succ, cond_eq hcb ht M (by omega)]
    simp [loopOutG, LSg, St.popTo, Res.bind_val]
  | succ k ih =>
    intro hk t ht pos hpos g1 lg N hN
    obtain ⟨M, rfl⟩ : ∃ M, N = M + 1 := ⟨N - 1, by omega⟩
    rw [evalWhile_succ, cond_eq hcb ht M (by omega)]
    simp only [Res.bind_val, Nat.zero_lt_succ, decide_true, if_true]
    rw [iter_eq hcb ht hk hpos M (by omega)]
    rw [loopOutG, attemptOut]
    split
    · rfl
    · exact ih (by omega) .i32 (Or.inr rfl) _ hpos.next _ _ M (by omega)

end ClockBound.Rs.SeqlockProof

/-
  Proofs of the translation tie for `ShmUpdater` (statements in `Properties/CodeTieUpdater.lean`), as equations about
  the calls (`Proofs/RsCall.lean`), one evaluation per function: `write_clock_error_bound` is `Updater.record`;
  `process_clock_update` and `process_missing_clock_update` rewrite their calls of it (and of
  `extract_bound_from_tracking`, `Proofs/RsExtract.lean`) with those equations, so that what is left of them is the
  model's `Updater.step` almost literally.  The FSM state and the chrony status stay symbolic (`fsmStep` is a primitive
  of the interpreter).  The loop `process_messages` uses the two equations in the same way (`Proofs/RsDispatch.lean`).
-/
import ClockBound.Proofs.RsExtract
namespace ClockBound.Rs.UpdaterProof
open ClockBound ClockBound.Rs ClockBound.Generated

open scoped ClockBound.Rs.CallByValue

/-- what a `&mut self` method of `ShmUpdater` that returns `()` does from the state `st`: the new `self`, and the
    record handed to `ShmWrite::write` is logged; the model's `none` is a panic -/
def updaterRes (st : St) (o : Option (Updater × Record)) : Res :=
  orPanic o fun p => .val (.tuple [.unit, updaterValue p.1]) ⟨st.env, st.log ++ [recordValue p.2], st.pos⟩

theorem updaterRes_eq (st : St) (o : Option (Updater × Record)) : updaterRes st o = (updaterOutcome o).toRes st := by
  rcases o with _ | ⟨u, r⟩ <;> rfl

theorem chronyOfValue_chronyValue (c : ChronyStatus) : chronyOfValue (.enumv (chronyName c) []) = some c := by
  cases c <;> rfl

theorem chronyName_eq_synchronized (c : ChronyStatus) :
    chronyName c = "ChronyClockStatus::Synchronized" ↔ c = .synchronized := by
  cases c <;> decide

theorem call_write (u : Updater) (nowNs : Int) (ext : Ext) (sizes : List (String × Nat)) (inp : Nat → Value)
    (hext : ext.Conservative) (N : Nat) (st : St) :
    callDecl (N + 30) (Code.ctxWith nowNs ext sizes inp) Code.fn_ShmUpdater__write_clock_error_bound (updaterValue u)
      [] st
    = updaterRes st (u.record.map fun r => (u, r)) := by
  obtain ⟨drift, fsm, bound, ⟨as, an⟩, res, hm⟩ := u
  obtain ⟨env, log, pos⟩ := st
  simp -implicitDefEqProofs only [rs_eval, rs_base, chkInt_i64, rs_code, updaterValue, ctimespecValue, hext.1, hext.2.1,
    hext.2.2]
  simp only [updaterRes, Updater.record]
  cases chk (as + 1000) <;> cases hm <;> rfl

theorem call_data (u : Updater) (t : Tracking) (phc : Int) (asOf : TimeSpec) (nowNs : Int) (ext : Ext)
    (sizes : List (String × Nat)) (inp : Nat → Value) (hext : ext.Conservative) (N : Nat) (st : St) :
    callDecl (N + 60) (Code.ctxWith nowNs ext sizes inp) Code.fn_ShmUpdater__process_clock_update (updaterValue u)
      [trackingValue t, .int .i64 phc, ctimespecValue asOf] st
    = updaterRes st (u.step (.data t phc asOf nowNs)) := by
  obtain ⟨drift, fsm, bound, ⟨as, an⟩, res, hm⟩ := u
  obtain ⟨s, n⟩ := asOf
  obtain ⟨env, log, pos⟩ := st
  have he := fun ext => ExtractProof.call_extract t nowNs ext sizes inp
  have hw := fun drift fsm bound as an res hm ext =>
    call_write ⟨drift, fsm, bound, ⟨as, an⟩, res, hm⟩ nowNs ext sizes inp
  simp only [trackingValue, updaterValue, ctimespecValue, updaterRes] at he hw
  simp -implicitDefEqProofs only [rs_eval, rs_base, chkInt_i64, rs_code, updaterValue, trackingValue,
    ctimespecValue, hext.1, hext.2.1, hext.2.2, Ext.Conservative, ↓he, ↓hw, chronyOfValue_chronyValue,
    chronyName_eq_synchronized]
  simp only [updaterRes, Updater.step, extractBound]
  cases chk (boundF t + phc) with
  | none => rfl
  | some b =>
    simp only [orPanic_some, Option.bind_eq_bind, Option.bind_some]
    by_cases hc : classify t nowNs = .synchronized
    all_goals
      simp only [hc, if_true, if_false]
      generalize Updater.record _ = o
      cases o <;> rfl

theorem call_missing (u : Updater) (g : Bool) (nowNs : Int) (ext : Ext) (sizes : List (String × Nat))
    (inp : Nat → Value) (hext : ext.Conservative) (N : Nat) (st : St) :
    callDecl (N + 40) (Code.ctxWith nowNs ext sizes inp) Code.fn_ShmUpdater__process_missing_clock_update
      (updaterValue u) [.bool g] st
    = updaterRes st (u.step (.missing g)) := by
  obtain ⟨drift, fsm, bound, ⟨as, an⟩, res, hm⟩ := u
  obtain ⟨env, log, pos⟩ := st
  have hw := fun drift fsm bound as an res hm ext =>
    call_write ⟨drift, fsm, bound, ⟨as, an⟩, res, hm⟩ nowNs ext sizes inp
  simp only [updaterValue, ctimespecValue, updaterRes] at hw
  simp -implicitDefEqProofs only [rs_eval, rs_base, rs_code, updaterValue, ctimespecValue, hext.1, hext.2.1, hext.2.2,
    Ext.Conservative, ↓hw]
  cases g
  all_goals
    simp only [updaterRes, Updater.step, Bool.false_eq_true, if_true, if_false, Option.bind_eq_bind]
    generalize Updater.record _ = o
    cases o <;> rfl

end ClockBound.Rs.UpdaterProof

/-
  TEMPLATE: a theorem about a loop with a symbolic number of iterations.

  The toy program (what the translator emits for it is `fn_demo__sum_below` below):

      fn sum_below(n: u32) -> u64 {
          let mut i: u32 = 0;
          let mut s: u64 = 0;
          while i < n {
              s += i as u64;
              i = 1 + i;
          }
          s
      }

  Theorem `sum_below_eq`: for EVERY `n : u32` the interpreter returns `Ok`-free `sumBelow n : u64`
  (= n(n-1)/2), never panics (neither `s += ..` nor `i += 1` overflows) and never gets stuck — given
  fuel `n + 30`: one unit per iteration plus the (constant) depth of the function.

  KNOWN ISSUE (open): the increment is written `i = 1 + i`, not `i += 1`.  With `i += 1` the same proof
  script closes every goal, but the KERNEL rejects the resulting term with "deep recursion detected": while
  checking it evaluates the `Decidable` instance of the overflow test `↑i + 1 ≤ 4294967295`, and
  `Int.ofNat i + Int.ofNat 1` reduces to `Int.ofNat (Nat.succ i)`, after which `Int.decLe` recurses on the
  4294967295 in unary.  `1 + i`, `i - 1` and sums of two variables are stuck earlier and are fine.  Until this
  is understood, a loop whose counter is incremented by `x += 1` on a `Nat`-embedded value needs its state
  expressed so that the counter is not of the form `↑(k : Nat)` (e.g. over an `Int` variable).

  The recipe (copy it):
  1. name the state at the start of iteration `i` (`S i`): the local variables as values;
  2. locate condition and body of the loop BY `findWhile` in the function body (no positions);
  3. per-iteration facts, for every fuel `M + d` (`d` a literal ≥ depth of condition/body): condition
     true for `i < k`, body takes `S i` to `S (i+1)`, condition false at `S k`; each is one
     `simp only [rs_eval, rs_base, rs_code, S, <arithmetic facts>]`;
  4. `evalWhile_count` (or `evalWhile_iterate` when the loop ends by `return`/`break`) gives the loop;
  5. the function: `simp only [rs_eval, rs_base, rs_code]` normalises up to the loop (the loop equations are NOT in
     `rs_eval`), rewrite with 4, `simp only [rs_eval, rs_base, rs_code]` finishes the rest of the function.
-/
import ClockBound.Proofs.RsLoop
import ClockBound.Proofs.RsLemmas
import Mathlib.Tactic.Ring
import Mathlib.Tactic.Linarith
set_option linter.style.nameCheck false
namespace ClockBound.Rs.LoopDemo
open ClockBound ClockBound.Rs

/-- body of `demo::sum_below`, in the translator's output format -/
@[simp, rs_code] def fn_demo__sum_below_stmts : List Stmt := [
    .letS (.bind "i") (some "u32") (some (.lit (.int 0 ""))) none,
    .letS (.bind "s") (some "u64") (some (.lit (.int 0 ""))) none,
    .expr (.whileE (.binary .lt (.path ["i"]) (.path ["n"])) [
      .expr (.assignOp .add (.path ["s"]) (.cast (.path ["i"]) "u64")) true,
      .expr (.assign (.path ["i"]) (.binary .add (.lit (.int 1 "")) (.path ["i"]))) true
    ]) false,
    .expr (.path ["s"]) false
  ]
def fn_demo__sum_below : FnDecl :=
  { name := "demo::sum_below", module := "demo", selfTy := "", trait := "", ident := "sum_below",
    self := SelfKind.none,
    params := [(.bind "n", "u32")],
    ret := "u64",
    body := fn_demo__sum_below_stmts }
@[simp, rs_code] theorem fn_demo__sum_below_ret : fn_demo__sum_below.ret = "u64" := rfl
@[simp, rs_code] theorem fn_demo__sum_below_module : fn_demo__sum_below.module = "demo" := rfl
@[simp, rs_code] theorem fn_demo__sum_below_selfTy : fn_demo__sum_below.selfTy = "" := rfl
@[simp, rs_code] theorem fn_demo__sum_below_self : fn_demo__sum_below.self = SelfKind.none := rfl
@[simp, rs_code] theorem fn_demo__sum_below_params : fn_demo__sum_below.params = [(.bind "n", "u32")] := rfl
@[simp, rs_code] theorem fn_demo__sum_below_body : fn_demo__sum_below.body = fn_demo__sum_below_stmts := rfl

@[rs_code] def fns : List (String × FnDecl) := [("demo::sum_below", fn_demo__sum_below)]

/-- no constants, structs, enums, inputs, dictionary -/
def ctx : Ctx := { fns := fns, consts := [], constTypes := [], structs := [], enums := [], nowNs := 0 }
@[simp, rs_code] theorem ctx_fns : ctx.fns = fns := rfl
@[simp, rs_code] theorem ctx_consts : ctx.consts = [] := rfl
@[simp, rs_code] theorem ctx_enums : ctx.enums = [] := rfl
@[simp, rs_code] theorem ctx_ext : ctx.ext = Ext.none := rfl

/-- the model: 0 + 1 + .. + (n-1) -/
def sumBelow : Nat → Nat
  | 0 => 0
  | i + 1 => sumBelow i + i

theorem sumBelow_closed (n : Nat) : 2 * sumBelow n = n * (n - 1) := by
  induction n with
  | zero => rfl
  | succ i ih =>
    cases i with
    | zero => rfl
    | succ j =>
      simp only [sumBelow, Nat.add_sub_cancel] at ih ⊢
      nlinarith

theorem sumBelow_le (i : Nat) : sumBelow i ≤ i * i := by
  induction i with
  | zero => simp [sumBelow]
  | succ i ih => simp only [sumBelow]; nlinarith

/-- step 1: the state at the start of iteration `i` (innermost variable first) -/
def S (n i : Nat) : St :=
  { env := [("s", .int .u64 (sumBelow i)), ("i", .int .u32 i), ("n", .int .u32 n)], log := [], pos := 0 }

def fr : Frame := ⟨"demo", "", "u64"⟩

/-- steps 2–4: the loop, for every fuel ≥ iterations + 12 -/
theorem loop_eq (n : Nat) (hn : n < 4294967296) (c : Expr) (b : List Stmt)
    (hcb : findWhile fn_demo__sum_below_stmts = some (c, b)) :
    ∀ N, n + 11 + 1 ≤ N → evalWhile N ctx fr c b (S n 0) = .val .unit (S n n) := by
  simp only [rs_eval, rs_base, rs_code] at hcb
  obtain ⟨rfl, rfl⟩ := hcb
  apply evalWhile_count (S n) 11 n
  · -- the condition holds while i < n
    intro i hi N hN
    obtain ⟨M, rfl⟩ := Nat.exists_eq_add_of_le' hN
    simp only [rs_eval, rs_base, rs_code, S, fr, hi]
  · -- the body takes S i to S (i+1); its two additions do not overflow
    intro i hi N hN next
    obtain ⟨M, rfl⟩ := Nat.exists_eq_add_of_le' hN
    have h1 : (sumBelow i : Int) + i ≤ 18446744073709551615 := by
      have := sumBelow_le i
      have : i * i ≤ 4294967295 * 4294967295 := Nat.mul_le_mul (by omega) (by omega)
      omega
    have h2 : 1 + (i : Int) ≤ 4294967295 := by omega
    have h3 : (0 : Int) ≤ (sumBelow i : Int) + i := by omega
    have h4 : (0 : Int) ≤ 1 + (i : Int) := by omega
    -- `i as u64` does not wrap
    have h5 : (i : Int) % 18446744073709551616 = i := by omega
    have h6 : ((i + 1 : Nat) : Int) = 1 + (i : Int) := by omega
    simp only [rs_eval, rs_base, rs_code, chkInt, S, fr, h1, h2, h3, h4, h5, h6, sumBelow]
  · -- and it fails at i = n
    intro N hN
    obtain ⟨M, rfl⟩ := Nat.exists_eq_add_of_le' hN
    simp only [rs_eval, rs_base, rs_code, S, fr]

/-- step 5: the function, for ALL `n : u32`, given fuel `n + 30` or more (`F` counts the spare fuel) -/
theorem sum_below_eq (n : Nat) (hn : n < 4294967296) (F : Nat) (hF : n ≤ F) :
    runFuel (F + 30) ctx "demo::sum_below" .unit [.int .u32 n] = .ok (.int .u64 (sumBelow n)) .unit [] := by
  have hloop := loop_eq n hn _ _ rfl
  have h0 : ((0 : Nat) : Int) = 0 := rfl
  simp only [S, sumBelow, fr, h0] at hloop
  simp only [rs_eval, rs_base, rs_code]
  rw [hloop _ (by omega)]
  simp only [rs_eval, rs_base, rs_code]

/-- ... in particular with the closed form -/
theorem sum_below_closed (n : Nat) (hn : n < 4294967296) :
    ∃ v : Nat, 2 * v = n * (n - 1) ∧
      runFuel (n + 30) ctx "demo::sum_below" .unit [.int .u32 n] = .ok (.int .u64 v) .unit [] :=
  ⟨sumBelow n, sumBelow_closed n, sum_below_eq n hn n (Nat.le_refl n)⟩

end ClockBound.Rs.LoopDemo

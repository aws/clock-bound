/-
  The dictionary of the groups that read clocks (Now, Poller, Dispatch): its registrations in `rs_eval`, the clock ids
  the source imports on Linux, the context `ctxP`.
-/
import ClockBound.Proofs.RsLemmas
import ClockBound.Generated.Code
import ClockBound.Rs.EmbedPoller
namespace ClockBound.Rs.NowProof
open ClockBound ClockBound.Rs ClockBound.Generated ClockBound.Rs.DictPoller

attribute [rs_eval] DictPoller.ext DictPoller.instant
  DictPoller.pathBuf DictPoller.dispatchBox DictPoller.receiver DictPoller.clockId DictPoller.okUnit
  DictPoller.instantLo
rs_register_eqns DictPoller.typedMessage DictPoller.path DictPoller.call DictPoller.method
-- the by-reference call rule of the core (`Rs/Interp.lean`, [poller]), which `Proofs/RsEval.lean` leaves to the groups
rs_register_eqns callDeclRef

/-- the `use`d constants on Linux, from the regenerated table: REALTIME = 0, MONOTONIC = 6 (COARSE) -/
theorem linuxUses_eq :
    linuxUses Code.consts = [("CLOCK_REALTIME", clockId 0), ("CLOCK_MONOTONIC", clockId 6)] := by
  simp only [linuxUses, constValue, rs_eval, rs_base, rs_code]

/-- the context of the group: generated tables + the dictionary with the Linux `use` imports -/
abbrev ctxP (nowNs : Int) (sizes : List (String × Nat)) (inp : Nat → Value) : Ctx :=
  Code.ctxWith nowNs (DictPoller.ext (linuxUses Code.consts)) sizes inp

end ClockBound.Rs.NowProof

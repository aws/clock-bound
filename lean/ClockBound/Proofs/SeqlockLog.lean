/-
  What the functions of the log memory compute (`lastBefore`, `latest`, `evenGenBetween`,
  `admissible`, `load`, `initBlock`, `pubCells`), how they change when the log grows, and what every
  step of the system keeps whatever the protocol does (`MemInv`). Core Lean only.
-/
import ClockBound.Model.SeqlockSys
namespace ClockBound.SL
open ClockBound

instance : LawfulBEq Loc where
  eq_of_beq {x y} h := by cases x <;> cases y <;> simp_all [BEq.beq, instBEqLoc.beq]
  rfl {x} := by cases x <;> simp [BEq.beq, instBEqLoc.beq]

/-! ### indexing a log, and a log with one more message -/

theorem lt_length_of_getElem? {α} {l : List α} {i : Nat} {x : α} (h : l[i]? = some x) : i < l.length :=
  (List.getElem?_eq_some_iff.1 h).1

theorem getElem?_append_some {log l : Log} {i : Nat} {m : Msg} (h : log[i]? = some m) :
    (log ++ l)[i]? = some m := by
  rw [List.getElem?_append_left (lt_length_of_getElem? h), h]

/-- a property of all messages of `log ++ [x]`: the old ones at their old places, and `x` -/
theorem forall_getElem?_snoc {log : Log} {x : Msg} {P : Nat → Msg → Prop}
    (hold : ∀ i m, i < log.length → log[i]? = some m → P i m) (hnew : P log.length x) :
    ∀ i m, (log ++ [x])[i]? = some m → P i m := by
  intro i m h
  have := hold i m
  grind

/-! ### `lastBefore`, `latest` -/

/-- the message at index `j` (if any) is at location `x` -/
def isLoc (log : Log) (x : Loc) (j : Nat) : Bool := (log[j]?.map (·.loc == x)).getD false

theorem isLoc_iff {log : Log} {x : Loc} {j : Nat} :
    isLoc log x j = true ↔ ∃ m, log[j]? = some m ∧ m.loc = x := by
  unfold isLoc
  cases log[j]? <;> simp

theorem isLoc_append {log l : Log} {x : Loc} {j : Nat} (h : j < log.length) :
    isLoc (log ++ l) x j = isLoc log x j := by
  unfold isLoc; rw [List.getElem?_append_left h]

theorem isLoc_of_ge {log : Log} {x : Loc} {j : Nat} (h : log.length ≤ j) : isLoc log x j = false := by
  unfold isLoc; rw [List.getElem?_eq_none h]; rfl

theorem isLoc_snoc_length (log : Log) (m : Msg) (x : Loc) :
    isLoc (log ++ [m]) x log.length = (m.loc == x) := by
  unfold isLoc; rw [List.getElem?_concat_length]; rfl

theorem lastBefore_zero (log : Log) (x : Loc) : lastBefore log x 0 = none := by
  simp [lastBefore]

theorem lastBefore_succ (log : Log) (x : Loc) (n : Nat) :
    lastBefore log x (n + 1) = if isLoc log x n then some n else lastBefore log x n := by
  have hdef : ∀ k, lastBefore log x k = ((List.range (min k log.length)).filter (isLoc log x)).getLast? :=
    fun _ => rfl
  by_cases hn : n < log.length
  · rw [hdef, hdef, Nat.min_eq_left (by omega), Nat.min_eq_left (by omega), List.range_succ,
      List.filter_append]
    cases h : isLoc log x n <;> simp [h]
  · rw [isLoc_of_ge (by omega), hdef, hdef, Nat.min_eq_right (by omega), Nat.min_eq_right (by omega)]
    rfl

theorem lastBefore_eq_none_iff {log : Log} {x : Loc} {n : Nat} :
    lastBefore log x n = none ↔ ∀ k m, k < n → log[k]? = some m → m.loc ≠ x := by
  induction n with
  | zero => simp [lastBefore_zero]
  | succ n ih =>
    rw [lastBefore_succ]
    have := @isLoc_iff log x n
    grind

/-- `lastBefore log x n = some j`: `j` is the largest index `< n` holding a message at `x` -/
theorem lastBefore_eq_some_iff {log : Log} {x : Loc} {n j : Nat} :
    lastBefore log x n = some j ↔
      j < n ∧ (∃ m, log[j]? = some m ∧ m.loc = x) ∧
        ∀ k m, j < k → k < n → log[k]? = some m → m.loc ≠ x := by
  induction n with
  | zero => simp [lastBefore_zero]
  | succ n ih =>
    rw [lastBefore_succ]
    have := @isLoc_iff log x n
    grind

theorem le_of_lastBefore {log : Log} {x : Loc} {n j k : Nat} {m : Msg} (h : lastBefore log x n = some j)
    (hk : k < n) (hm : log[k]? = some m) (hx : m.loc = x) : k ≤ j :=
  Nat.le_of_not_lt fun hjk => (lastBefore_eq_some_iff.1 h).2.2 k m hjk hk hm hx

theorem loc_of_lastBefore {log : Log} {x : Loc} {n j : Nat} {m : Msg} (h : lastBefore log x n = some j)
    (hm : log[j]? = some m) : m.loc = x := by
  obtain ⟨_, ⟨m', hm', hx⟩, _⟩ := lastBefore_eq_some_iff.1 h
  rw [hm] at hm'
  rw [Option.some.inj hm', hx]

theorem lastBefore_exists {log : Log} {x : Loc} {n k : Nat} {m : Msg}
    (hk : k < n) (hm : log[k]? = some m) (hx : m.loc = x) : ∃ j, lastBefore log x n = some j := by
  cases h : lastBefore log x n with
  | none => exact absurd hx (lastBefore_eq_none_iff.1 h k m hk hm)
  | some j => exact ⟨j, rfl⟩

theorem lastBefore_append {log l : Log} {x : Loc} {n : Nat} (h : n ≤ log.length) :
    lastBefore (log ++ l) x n = lastBefore log x n := by
  induction n with
  | zero => rw [lastBefore_zero, lastBefore_zero]
  | succ n ih => rw [lastBefore_succ, lastBefore_succ, isLoc_append (by omega), ih (by omega)]

/-- the newest message at `x` after one more message was appended -/
theorem lastBefore_snoc (log : Log) (m : Msg) (x : Loc) :
    lastBefore (log ++ [m]) x (log ++ [m]).length =
      if m.loc = x then some log.length else lastBefore log x log.length := by
  rw [List.length_append, List.length_singleton, lastBefore_succ, isLoc_snoc_length,
    lastBefore_append (Nat.le_refl _)]
  simp

theorem latest_eq_of_lastBefore {log : Log} {x : Loc} {j : Nat} {m : Msg}
    (h : lastBefore log x log.length = some j) (hm : log[j]? = some m) : latest log x = m.val := by
  unfold latest; rw [h]; simp [hm]

theorem latest_snoc (log : Log) (m : Msg) (x : Loc) :
    latest (log ++ [m]) x = if m.loc = x then m.val else latest log x := by
  unfold latest
  rw [lastBefore_snoc]
  by_cases hx : m.loc = x
  · simp [hx]
  · rw [if_neg hx, if_neg hx]
    cases h : lastBefore log x log.length with
    | none => rfl
    | some j => simp only [List.getElem?_append_left (lastBefore_eq_some_iff.1 h).1]

theorem storeMsg_length (log : Log) (rel : Nat) (x : Loc) (val : Nat) (ord : Ord) :
    (storeMsg log rel x val ord).length = log.length + 1 := by
  simp [storeMsg]

theorem lastBefore_storeMsg (log : Log) (rel : Nat) (x y : Loc) (val : Nat) (ord : Ord) :
    lastBefore (storeMsg log rel x val ord) y (storeMsg log rel x val ord).length =
      if x = y then some log.length else lastBefore log y log.length :=
  lastBefore_snoc log _ y

theorem latest_storeMsg (log : Log) (rel : Nat) (x y : Loc) (val : Nat) (ord : Ord) :
    latest (storeMsg log rel x val ord) y = if x = y then val else latest log y :=
  latest_snoc log _ y

/-- `ℓ` is the newest generation message and holds `v` -/
def LastGen (log : Log) (ℓ v : Nat) : Prop :=
  (∃ m, log[ℓ]? = some m ∧ m.loc = .gen ∧ m.val = v) ∧
    ∀ k m, ℓ < k → log[k]? = some m → m.loc ≠ .gen

theorem LastGen.latest {log : Log} {ℓ v : Nat} (h : LastGen log ℓ v) : latest log .gen = v := by
  obtain ⟨⟨m, hm, hl, hv⟩, hlast⟩ := h
  rw [← hv]
  exact latest_eq_of_lastBefore
    (lastBefore_eq_some_iff.2 ⟨lt_length_of_getElem? hm, ⟨m, hm, hl⟩, fun k mk hk _ => hlast k mk hk⟩) hm

/-! ### counting even generation messages -/

def isEG (log : Log) (k : Nat) : Bool := (log[k]?.map isEvenGen).getD false

theorem isEG_iff {log : Log} {k : Nat} :
    isEG log k = true ↔ ∃ m, log[k]? = some m ∧ m.loc = .gen ∧ m.val % 2 = 0 := by
  unfold isEG isEvenGen
  cases log[k]? <;> simp

theorem isEG_append {log l : Log} {k : Nat} (h : k < log.length) : isEG (log ++ l) k = isEG log k := by
  unfold isEG; rw [List.getElem?_append_left h]

theorem isEG_cons_succ (a : Msg) (log : Log) (k : Nat) : isEG (a :: log) (k + 1) = isEG log k := by
  unfold isEG; simp

theorem eGB_succ (log : Log) (i j : Nat) :
    evenGenBetween log i (j + 1) =
      evenGenBetween log i j + (if i < j + 1 ∧ isEG log (j + 1) = true then 1 else 0) := by
  have hdef : ∀ j, evenGenBetween log i j =
      ((List.range (j + 1)).filter (fun k => decide (i < k) && isEG log k)).length := fun _ => rfl
  rw [hdef, hdef, List.range_succ, List.filter_append, List.length_append]
  by_cases h : i < j + 1 <;> cases h' : isEG log (j + 1) <;> simp [h, h']

/-- no even generation message in `(j, k]` -/
theorem eGB_eq_zero (log : Log) {j k : Nat} (h : ∀ t, j < t → t ≤ k → isEG log t = false) :
    evenGenBetween log j k = 0 := by
  simp only [evenGenBetween, List.length_eq_zero_iff, List.filter_eq_nil_iff, List.mem_range]
  intro t ht
  by_cases hjt : j < t
  · have := h t hjt (by omega)
    unfold isEG at this
    simp [this]
  · simp [hjt]

theorem eGB_of_le (log : Log) {i j : Nat} (h : j ≤ i) : evenGenBetween log i j = 0 :=
  eGB_eq_zero log fun _ h1 h2 => absurd (Nat.lt_of_lt_of_le h1 h2) (Nat.not_lt.2 h)

theorem eGB_add (log : Log) {i j k : Nat} (hij : i ≤ j) (hjk : j ≤ k) :
    evenGenBetween log i k = evenGenBetween log i j + evenGenBetween log j k := by
  induction k with
  | zero => rw [show j = 0 by omega, eGB_of_le log (Nat.le_refl 0)]; rfl
  | succ k ih =>
    by_cases hjk' : j = k + 1
    · rw [hjk', eGB_of_le log (Nat.le_refl _)]; rfl
    · rw [eGB_succ, eGB_succ log j, ih (by omega)]
      simp only [show i < k + 1 by omega, show j < k + 1 by omega, true_and]
      omega

theorem eGB_append {log l : Log} {i j : Nat} (h : j < log.length) :
    evenGenBetween (log ++ l) i j = evenGenBetween log i j := by
  induction j with
  | zero => rw [eGB_of_le _ (Nat.zero_le _), eGB_of_le _ (Nat.zero_le _)]
  | succ j ih => rw [eGB_succ, eGB_succ, ih (by omega), isEG_append h]

theorem isEG_snoc_length (log : Log) (x : Msg) : isEG (log ++ [x]) log.length = isEvenGen x := by
  unfold isEG; rw [List.getElem?_concat_length]; rfl

/-- appending a generation message adds one to the count from `i` exactly if its value is even -/
theorem eGB_snoc_gen {log : Log} {x : Msg} {i ℓ : Nat} (hℓ : lastBefore log .gen log.length = some ℓ)
    (hx : x.loc = .gen) (hi : i ≤ ℓ) :
    evenGenBetween (log ++ [x]) i log.length =
      evenGenBetween log i ℓ + if x.val % 2 = 0 then 1 else 0 := by
  obtain ⟨hlt, _, hlast⟩ := lastBefore_eq_some_iff.1 hℓ
  obtain ⟨n, hn⟩ : ∃ n, log.length = n + 1 := ⟨log.length - 1, by omega⟩
  have hnone : evenGenBetween log ℓ n = 0 := by
    apply eGB_eq_zero
    intro t ht1 ht2
    apply Bool.eq_false_iff.2
    intro hb
    obtain ⟨mt, hmt, hlt, _⟩ := isEG_iff.1 hb
    exact hlast t mt ht1 (by omega) hmt hlt
  have hnew : isEG (log ++ [x]) (n + 1) = (x.val % 2 == 0) := by
    rw [← hn, isEG_snoc_length]; simp [isEvenGen, hx]
  rw [hn, eGB_succ, eGB_append (by omega), eGB_add log hi (show ℓ ≤ n by omega), hnone, hnew]
  simp [show i < n + 1 by omega]

theorem eGB_le_completed (log : Log) (i j : Nat) : evenGenBetween log i j ≤ completedUpdates log := by
  have htake : evenGenBetween log i j ≤ ((log.take (j + 1)).filter isEvenGen).length := by
    induction j with
    | zero => rw [eGB_of_le log (Nat.zero_le _)]; exact Nat.zero_le _
    | succ j ih =>
      rw [eGB_succ, List.take_add_one, List.filter_append, List.length_append]
      unfold isEG
      cases log[j + 1]? with
      | none => simpa using ih
      | some m =>
        cases h : isEvenGen m with
        | false => simpa [h] using ih
        | true =>
          simp only [h, Option.map_some, Option.getD_some, Option.toList_some]
          split <;> simp [h] <;> omega
  exact Nat.le_trans htake ((List.take_sublist _ _).filter _).length_le

theorem completedUpdates_append (log l : Log) : completedUpdates log ≤ completedUpdates (log ++ l) := by
  unfold completedUpdates
  rw [List.filter_append, List.length_append]
  omega

/-! ### views, `admissible`, `load` -/

theorem cohOf_setCoh (v : View) (x y : Loc) (j : Nat) :
    (v.setCoh x j).cohOf y = if x = y then j else v.cohOf y := by
  unfold View.cohOf View.setCoh
  rw [List.find?_cons, List.find?_filter]
  by_cases h : x = y
  · simp [h]
  · have hf : (fun p : Loc × Nat => decide ((p.1 != x) = true ∧ (p.1 == y) = true)) = (fun p => p.1 == y) := by
      funext p; grind
    rw [hf, if_neg h, beq_false_of_ne h]

/-- the view after a load that read message `j` carrying `c` -/
def loadView (v : View) (x : Loc) (ord : Ord) (j c : Nat) : View :=
  if ord.isAcq then { cur := max v.cur c, acq := max v.acq c, coh := (v.setCoh x j).coh }
  else { cur := v.cur, acq := max v.acq c, coh := (v.setCoh x j).coh }

theorem loadView_cohOf (v : View) (x y : Loc) (ord : Ord) (j c : Nat) :
    (loadView v x ord j c).cohOf y = if x = y then j else v.cohOf y := by
  rw [← cohOf_setCoh]
  unfold loadView; split <;> rfl

theorem loadView_acq (v : View) (x : Loc) (ord : Ord) (j c : Nat) :
    (loadView v x ord j c).acq = max v.acq c := by
  unfold loadView; split <;> rfl

theorem loadView_cur (v : View) (x : Loc) (ord : Ord) (j c : Nat) :
    (loadView v x ord j c).cur = if ord.isAcq then max v.cur c else v.cur := by
  unfold loadView; split <;> rfl

theorem loadView_cur_ge (v : View) (x : Loc) (ord : Ord) (j c : Nat) :
    v.cur ≤ (loadView v x ord j c).cur := by
  rw [loadView_cur]; split <;> omega

theorem mem_admissible {log : Log} {v : View} {x : Loc} {j : Nat} :
    j ∈ admissible log v x ↔
      j < log.length ∧ v.cohOf x ≤ j ∧ (lastBefore log x v.cur).getD 0 ≤ j ∧ isLoc log x j = true := by
  simp only [admissible, isLoc, List.mem_filter, List.mem_range, Bool.and_eq_true, decide_eq_true_eq,
    Nat.max_le, and_assoc]

/-- a load does not read a message that a newer one inside the reader's `cur` prefix hides -/
theorem admissible_no_later {log : Log} {v : View} {x : Loc} {j : Nat} (hj : j ∈ admissible log v x)
    {k : Nat} {m : Msg} (hjk : j < k) (hk : k < v.cur) (hm : log[k]? = some m) : m.loc ≠ x := by
  intro hx
  obtain ⟨j', hj'⟩ := lastBefore_exists hk hm hx
  have := (mem_admissible.1 hj).2.2.1
  rw [hj'] at this
  have := le_of_lastBefore hj' hk hm hx
  simp only [Option.getD_some] at *
  omega

theorem getLast?_filter_range (P : Nat → Bool) (n j : Nat) :
    ((List.range n).filter P).getLast? = some j ↔
      j < n ∧ P j = true ∧ ∀ k, j < k → k < n → P k = false := by
  induction n with
  | zero => simp
  | succ n ih =>
    rw [List.range_succ, List.filter_append]
    cases h : P n <;> simp [h] <;> grind

/-- the coherence part of `ViewOk` -/
def CohOk (log : Log) (v : View) : Prop :=
  ∀ x j, lastBefore log x log.length = some j → v.cohOf x ≤ j

/-- under a coherent view the newest admissible message is the newest message at the location -/
theorem admissible_getLast? {log : Log} {v : View} (x : Loc) (hv : CohOk log v) :
    (admissible log v x).getLast? = lastBefore log x log.length := by
  have hdef : lastBefore log x log.length = ((List.range log.length).filter (isLoc log x)).getLast? := by
    unfold lastBefore; rw [Nat.min_self]; rfl
  have hadm : admissible log v x = (List.range log.length).filter
      (fun j => decide (max (v.cohOf x) ((lastBefore log x v.cur).getD 0) ≤ j) && isLoc log x j) := rfl
  apply Option.ext
  intro j
  have hlo : lastBefore log x log.length = some j →
      max (v.cohOf x) ((lastBefore log x v.cur).getD 0) ≤ j := by
    intro h
    have h1 := hv x j h
    cases hc : lastBefore log x v.cur with
    | none => simpa using h1
    | some i =>
      obtain ⟨hi, ⟨m, hm, hx⟩, -⟩ := lastBefore_eq_some_iff.1 hc
      have := le_of_lastBefore h (lt_length_of_getElem? hm) hm hx
      simp only [Option.getD_some]; omega
  rw [hdef] at hlo ⊢
  rw [hadm, getLast?_filter_range, getLast?_filter_range] at *
  grind

theorem admissible_ne_nil {log : Log} {v : View} {x : Loc} (hv : CohOk log v)
    {k : Nat} {m : Msg} (hm : log[k]? = some m) (hx : m.loc = x) : admissible log v x ≠ [] := by
  obtain ⟨j, hj⟩ := lastBefore_exists (lt_length_of_getElem? hm) hm hx
  intro h
  rw [← admissible_getLast? x hv, h] at hj
  cases hj

/-- a load reads nothing when no message is admissible, and otherwise one of the admissible messages -/
theorem load_cases (log : Log) (v : View) (x : Loc) (ord : Ord) (pick : Nat) :
    (admissible log v x = [] ∧ load log v x ord pick = (0, 0, v)) ∨
    ∃ j m, j ∈ admissible log v x ∧ log[j]? = some m ∧ m.loc = x ∧
      load log v x ord pick = (m.val, j, loadView v x ord j m.carried) := by
  by_cases hne : admissible log v x = []
  · exact .inl ⟨hne, by simp [load, hne]⟩
  have hidx : min pick ((admissible log v x).length - 1) < (admissible log v x).reverse.length := by
    have := List.length_pos_iff.2 hne
    rw [List.length_reverse]; omega
  have hj := List.getElem?_eq_getElem hidx
  have hmem := List.mem_reverse.1 (List.mem_of_getElem? hj)
  obtain ⟨m, hm, hx⟩ := isLoc_iff.1 (mem_admissible.1 hmem).2.2.2
  refine .inr ⟨_, m, hmem, hm, hx, ?_⟩
  simp only [load, hj, hm, Option.getD_some]
  unfold loadView
  split <;> rfl

/-- a fresh read (pick 0) under a coherent view returns the newest value at the location -/
theorem load_fresh {log : Log} {v : View} (x : Loc) (ord : Ord) (hv : CohOk log v) :
    (load log v x ord 0).1 = latest log x := by
  unfold load latest
  simp only [Nat.zero_min, ← List.head?_eq_getElem?, List.head?_reverse, admissible_getLast? x hv]
  cases lastBefore log x log.length with
  | none => rfl
  | some j => dsimp only; cases log[j]? <;> rfl

theorem load_cohOk {log : Log} {v : View} (x : Loc) (ord : Ord) (pick : Nat) (hv : CohOk log v) :
    CohOk log (load log v x ord pick).2.2 := by
  rcases load_cases log v x ord pick with ⟨-, e⟩ | ⟨j, m, -, hm, hx, e⟩ <;> rw [e]
  · exact hv
  · intro y i hy
    rw [loadView_cohOf]
    split
    · next hxy => exact le_of_lastBefore hy (lt_length_of_getElem? hm) hm (hx.trans hxy)
    · exact hv y i hy

/-- A load at a location that holds a message, by a reader with a coherent view: which message it
    may return, and what the reader knows afterwards. -/
theorem load_ok {log : Log} {v : View} {x : Loc} (hv : CohOk log v)
    {k0 : Nat} {m0 : Msg} (hm0 : log[k0]? = some m0) (hx0 : m0.loc = x) (ord : Ord) (pick : Nat) :
    ∃ (j : Nat) (m : Msg), log[j]? = some m ∧ m.loc = x ∧ v.cohOf x ≤ j ∧
      (∀ (k : Nat) (mk : Msg), j < k → k < v.cur → log[k]? = some mk → mk.loc ≠ x) ∧
      load log v x ord pick = (m.val, j, loadView v x ord j m.carried) ∧
      ∀ y, v.cohOf y ≤ (loadView v x ord j m.carried).cohOf y := by
  rcases load_cases log v x ord pick with ⟨hnil, -⟩ | ⟨j, m, hj, hm, hx, heq⟩
  · exact absurd hnil (admissible_ne_nil hv hm0 hx0)
  have hcoh := (mem_admissible.1 hj).2.1
  refine ⟨j, m, hm, hx, hcoh, fun _ _ h1 h2 h3 => admissible_no_later hj h1 h2 h3, heq, fun y => ?_⟩
  rw [loadView_cohOf]
  split
  · next e => exact e ▸ hcoh
  · exact Nat.le_refl _

theorem fenceAcq_of_acq (v : View) {o : Ord} (h : o.isAcq = true) :
    fenceAcq v o = ⟨max v.cur v.acq, v.acq, v.coh⟩ := by
  unfold fenceAcq; rw [if_pos h]

theorem fenceAcq_cohOf (v : View) (o : Ord) (x : Loc) : (fenceAcq v o).cohOf x = v.cohOf x := by
  unfold fenceAcq; split <;> rfl

/-! ### the initial block, `pubCells` -/

theorem initBlock_length (ver gen : Nat) (cells : List Nat) :
    (initBlock ver gen cells).length = cells.length + 2 := by
  simp [initBlock]

/-- the messages of the initial block: the cells in order, then version, then generation -/
theorem initBlock_getElem?_eq_some {ver gen : Nat} {cells : List Nat} {i : Nat} {m : Msg} :
    (initBlock ver gen cells)[i]? = some m ↔
      (∃ c, cells[i]? = some c ∧ m = ⟨.cell i, c, cells.length + 2⟩) ∨
      (i = cells.length ∧ m = ⟨.version, ver, cells.length + 2⟩) ∨
      (i = cells.length + 1 ∧ m = ⟨.gen, gen, cells.length + 2⟩) := by
  simp only [initBlock, List.getElem?_append, List.length_map, List.length_zipIdx, List.getElem?_map,
    List.getElem?_zipIdx, List.getElem?_cons]
  grind

theorem initBlock_carried {ver gen : Nat} {cells : List Nat} {i : Nat} {m : Msg}
    (hm : (initBlock ver gen cells)[i]? = some m) : m.carried = cells.length + 2 := by
  rcases initBlock_getElem?_eq_some.1 hm with ⟨_, _, rfl⟩ | ⟨_, rfl⟩ | ⟨_, rfl⟩ <;> rfl

theorem initBlock_gen {ver gen : Nat} {cells : List Nat} {i : Nat} {m : Msg}
    (hm : (initBlock ver gen cells)[i]? = some m) (hl : m.loc = .gen) :
    i = cells.length + 1 ∧ m.val = gen := by
  rcases initBlock_getElem?_eq_some.1 hm with ⟨_, _, rfl⟩ | ⟨_, rfl⟩ | ⟨hi, rfl⟩ <;> simp_all

theorem initBlock_cell {ver gen : Nat} {cells : List Nat} {i c : Nat} {m : Msg}
    (hm : (initBlock ver gen cells)[i]? = some m) (hl : m.loc = .cell c) :
    i = c ∧ cells[c]? = some m.val := by
  rcases initBlock_getElem?_eq_some.1 hm with ⟨v, hv, rfl⟩ | ⟨_, rfl⟩ | ⟨_, rfl⟩ <;> simp_all

theorem pubCells_append {log l : Log} {i : Nat} (h : i ≤ log.length) :
    pubCells (log ++ l) i = pubCells log i := by
  unfold pubCells
  apply List.map_congr_left
  intro c _
  rw [lastBefore_append h]
  cases hl : lastBefore log (.cell c) i with
  | none => rfl
  | some j => simp only [List.getElem?_append_left (Nat.lt_of_lt_of_le (lastBefore_eq_some_iff.1 hl).1 h)]

/-- `pubCells` from the newest message of each cell before `i` -/
theorem pubCells_eq_map {log : Log} {i : Nat} {f : Nat → Nat}
    (h : ∀ c, c < N → ∃ j m, lastBefore log (.cell c) i = some j ∧ log[j]? = some m ∧ m.val = f c) :
    pubCells log i = (List.range N).map f := by
  unfold pubCells
  apply List.map_congr_left
  intro c hc
  obtain ⟨j, m, hj, hm, hv⟩ := h c (List.mem_range.1 hc)
  simp [hj, hm, hv]

theorem eq_map_range_getElem? (l : List Nat) : l = (List.range l.length).map (fun c => l[c]?.getD 0) := by
  apply List.ext_getElem?
  intro i
  by_cases h : i < l.length <;> simp [h]

/-- the record in a fresh segment, as of its generation message, is the initial record -/
theorem pubCells_initBlock (ver gen : Nat) {cells : List Nat} (hc : cells.length = N) :
    pubCells (initBlock ver gen cells) (N + 1) = cells := by
  conv => rhs; rw [eq_map_range_getElem? cells, hc]
  apply pubCells_eq_map
  intro c hcN
  have hcell : (initBlock ver gen cells)[c]? = some ⟨.cell c, cells[c]?.getD 0, cells.length + 2⟩ :=
    initBlock_getElem?_eq_some.2 (Or.inl ⟨cells[c]?.getD 0, by simp [show c < cells.length by omega], rfl⟩)
  refine ⟨c, _, lastBefore_eq_some_iff.2 ⟨by omega, ⟨_, hcell, rfl⟩, fun k m hk _ hm hx => ?_⟩, hcell, rfl⟩
  have := (initBlock_cell hm hx).1
  omega

theorem pubCells_length (log : Log) :
    pubCells log log.length = (List.range N).map (fun c => latest log (.cell c)) := rfl

theorem pubCells_length_eq {log : Log} {rec : List Nat} (hlen : rec.length = N)
    (h : ∀ c, c < N → latest log (.cell c) = rec[c]?.getD 0) : pubCells log log.length = rec := by
  conv => rhs; rw [eq_map_range_getElem? rec, hlen]
  rw [pubCells_length]
  exact List.map_congr_left fun c hc => h c (List.mem_range.1 hc)

/-! ### what every step keeps, whatever the segment held at first and whatever the orderings -/

/-- The inductive form of `ViewOk`: what the view knows lies within the log, and each coherence bound is
    0 or the index of a message at its location. -/
structure ViewInv (log : Log) (v : View) : Prop where
  cur : v.cur ≤ log.length
  acq : v.acq ≤ log.length
  coh : ∀ x, v.cohOf x = 0 ∨ ∃ m, log[v.cohOf x]? = some m ∧ m.loc = x

theorem ViewInv.empty (log : Log) : ViewInv log {} :=
  ⟨Nat.zero_le _, Nat.zero_le _, fun _ => Or.inl rfl⟩

theorem ViewInv.append {log : Log} {v : View} (h : ViewInv log v) (l : Log) : ViewInv (log ++ l) v := by
  refine ⟨?_, ?_, fun x => (h.coh x).imp id fun ⟨m, hm, hl⟩ => ⟨m, getElem?_append_some hm, hl⟩⟩
  · rw [List.length_append]; exact Nat.le_trans h.cur (Nat.le_add_right _ _)
  · rw [List.length_append]; exact Nat.le_trans h.acq (Nat.le_add_right _ _)

theorem ViewInv.viewOk {log : Log} {v : View} (h : ViewInv log v) : ViewOk log v := by
  refine ⟨h.cur, h.acq, fun x j hj => ?_⟩
  rcases h.coh x with h0 | ⟨m, hm, hl⟩
  · omega
  · exact le_of_lastBefore hj (lt_length_of_getElem? hm) hm hl

/-- the prefixes the messages carry lie within the log -/
def CarLe (log : Log) : Prop := ∀ (i : Nat) (m : Msg), log[i]? = some m → m.carried ≤ log.length

theorem load_viewInv {log : Log} {v : View} (hV : ViewInv log v)
    (hcar : CarLe log) (x : Loc) (ord : Ord) (pick : Nat) : ViewInv log (load log v x ord pick).2.2 := by
  rcases load_cases log v x ord pick with ⟨-, e⟩ | ⟨j, m, -, hm, hx, e⟩ <;> rw [e]
  · exact hV
  · have hc := hcar j m hm
    refine ⟨?_, ?_, fun y => ?_⟩
    · have := hV.cur; rw [loadView_cur]; split <;> omega
    · have := hV.acq; rw [loadView_acq]; omega
    · rw [loadView_cohOf]
      split
      · next e => exact Or.inr ⟨m, hm, hx.trans e⟩
      · exact hV.coh y

theorem fenceAcq_viewInv {log : Log} {v : View} (hV : ViewInv log v) (o : Ord) :
    ViewInv log (fenceAcq v o) := by
  unfold fenceAcq
  split
  · exact ⟨Nat.max_le.2 ⟨hV.cur, hV.acq⟩, hV.acq, hV.coh⟩
  · exact hV

/-- what a reader access does to the view: nothing, a load, or a fence -/
theorem rStep_view (a : Ann) (log : Log) (r : Reader) (pc pm : Nat) :
    (rStep a log r pc pm).1.view = r.view ∨
    (∃ x ord, (rStep a log r pc pm).1.view = (load log r.view x ord pm).2.2) ∨
    (∃ o, (rStep a log r pc pm).1.view = fenceAcq r.view o) := by
  unfold rStep
  cases r.pc <;> grind

theorem rStep_viewInv {a : Ann} {log : Log} {r : Reader} (hV : ViewInv log r.view)
    (hcar : CarLe log) (pc pm : Nat) :
    ViewInv log (rStep a log r pc pm).1.view := by
  rcases rStep_view a log r pc pm with e | ⟨x, ord, e⟩ | ⟨o, e⟩ <;> rw [e]
  · exact hV
  · exact load_viewInv hV hcar x ord pm
  · exact fenceAcq_viewInv hV o

/-- what a writer access does to the log and to the release-fence mark: a fence or nothing, or one store -/
theorem wStep_spec (a : Ann) (log : Log) (w : Writer) (pick : Nat) :
    ((wStep a log w pick).1 = log ∧
      ((wStep a log w pick).2.1.relFence = w.relFence ∨
       (wStep a log w pick).2.1.relFence = log.length)) ∨
    (∃ x val ord, (wStep a log w pick).1 = storeMsg log w.relFence x val ord ∧
      (wStep a log w pick).2.1.relFence = w.relFence) := by
  obtain ⟨pc, rf⟩ := w
  cases pc with
  | idle | loadGen => exact .inl ⟨rfl, .inl rfl⟩
  | newVersion | store1 | store2 => exact .inr ⟨_, _, _, rfl, rfl⟩
  | fence rec g =>
    refine .inl ⟨rfl, ?_⟩
    simp only [wStep]
    split
    · exact .inr rfl
    · exact .inl rfl
  | copy rec g todo =>
    simp only [wStep]
    split
    · exact .inl ⟨rfl, .inl rfl⟩
    · exact .inr ⟨_, _, _, rfl, rfl⟩

theorem wStep_log (a : Ann) (log : Log) (w : Writer) (pick : Nat) :
    ∃ l, (wStep a log w pick).1 = log ++ l := by
  rcases wStep_spec a log w pick with ⟨e, _⟩ | ⟨x, val, ord, e, _⟩
  · exact ⟨[], by rw [e, List.append_nil]⟩
  · exact ⟨_, e⟩

theorem wStep_within (a : Ann) {log : Log} {w : Writer} (pick : Nat)
    (hcar : CarLe log) (hrel : w.relFence ≤ log.length) :
    CarLe (wStep a log w pick).1 ∧
      (wStep a log w pick).2.1.relFence ≤ (wStep a log w pick).1.length := by
  rcases wStep_spec a log w pick with ⟨e1, e2 | e2⟩ | ⟨x, val, ord, e1, e2⟩ <;> rw [e1, e2]
  · exact ⟨hcar, hrel⟩
  · exact ⟨hcar, Nat.le_refl _⟩
  · have hlen := storeMsg_length log w.relFence x val ord
    exact ⟨forall_getElem?_snoc (fun i m _ hm => by have := hcar i m hm; omega) (by dsimp only; split <;> omega),
      by omega⟩

/-- The reader's view, the prefixes the messages carry and the writer's release-fence mark lie within
    the log. -/
structure MemInv (s : Sys) : Prop where
  view : ViewInv s.log s.r.view
  carLe : CarLe s.log
  rel : s.w.relFence ≤ s.log.length

theorem MemInv.init (ver gen : Nat) (cells : List Nat) : MemInv (Sys.init ver gen cells) :=
  ⟨.empty _, fun _ _ hm => Nat.le_of_eq ((initBlock_carried hm).trans (initBlock_length ver gen cells).symm),
    Nat.zero_le _⟩

theorem MemInv.step {a : Ann} {s t : Sys} (h : MemInv s) (hst : Step a s t) : MemInv t := by
  cases hst with
  | wNew | wKill => exact ⟨h.view, h.carLe, Nat.zero_le _⟩
  | wWrite | rCall => exact ⟨h.view, h.carLe, h.rel⟩
  | rOpen => exact ⟨.empty _, h.carLe, h.rel⟩
  | rStep pc pm => exact ⟨rStep_viewInv h.view h.carLe pc pm, h.carLe, h.rel⟩
  | wStep pick =>
    obtain ⟨l, hl⟩ := wStep_log a s.log s.w pick
    obtain ⟨hcar, hrel⟩ := wStep_within a pick h.carLe h.rel
    exact ⟨hl ▸ h.view.append l, hcar, hrel⟩

theorem MemInv.reachable {a : Ann} {ver gen : Nat} {cells : List Nat} {s : Sys}
    (hr : Reachable a (Sys.init ver gen cells) s) : MemInv s := by
  induction hr with
  | refl => exact .init ver gen cells
  | step _ hst ih => exact ih.step hst

end ClockBound.SL

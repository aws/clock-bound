/-
  The poller's loop (`chrony_poller::run_clock_error_bound_poller`) for every fuel, caller state and `impl
  ChronyOperations` value, on `callDecl` (so that the proof for the entry function `chrony_poller::run` rewrites
  with it).  Two stages.  `poller_trips`: the loop of ANY program text `while c { e1; rest }` whose `e1` behaves as
  a poll half and whose `rest` as a mailbox check, from its first trip to the poll half of its last.
  `poller_loop_tie`: the function is evaluated up to its loop and the loop handed to `poller_trips`, which asks for
  three facts about the text, each shown ONCE by evaluation (the condition; the poll half, for every shape of what
  it observed; the mailbox check, for every shape of what `recv_timeout` returned that lets the loop go on); then
  the last mailbox check (Abort) and the way out of the loop are evaluated.
  At the end: what the statement about the entry function `chrony_poller::run` speaks of (start-up, outcome).
-/
import ClockBound.Proofs.RsWorkersBase
namespace ClockBound.Rs.ThreadsProof
open ClockBound ClockBound.Rs ClockBound.Generated ClockBound.Rs.DictThreads ClockBound.Rs.EmbedThreads
open ClockBound.Rs.EmbedWorkers ClockBound.Threads

/-- the two methods of `impl ChronyOperations for ClockErrorBoundPoller`: operations of the environment for this
    group (the chrony query and the grace-period clock are group `Poller`'s: `CodeTiePoller`) -/
def abstractedP : List String :=
  ["ChronyOperations for ClockErrorBoundPoller::get_tracking",
   "ChronyOperations for ClockErrorBoundPoller::is_within_grace_period"]

def pollerFns : List (String × FnDecl) := Code.fns.filter fun p => !abstractedP.contains p.1

/-- the generated context with the dictionary `DictThreads.ext`, minus the two `ChronyOperations` methods of
    `ClockErrorBoundPoller` (with them in the table the core resolves `poller.get_tracking()` on a
    `ClockErrorBoundPoller` to the translated impl; here `poller` is any `impl ChronyOperations`) -/
def pollerCtx (nowNs : Int) (inp : Nat → Value) : Ctx :=
  { Code.ctxWith nowNs DictThreads.ext [] inp with fns := pollerFns }

@[rs_eval] theorem pollerCtx_fns (n i) : (pollerCtx n i).fns = pollerFns := rfl
@[rs_eval] theorem pollerCtx_consts (n i) : (pollerCtx n i).consts = Code.consts := rfl
@[rs_eval] theorem pollerCtx_constTypes (n i) : (pollerCtx n i).constTypes = Code.constTypes := rfl
@[rs_eval] theorem pollerCtx_structs (n i) : (pollerCtx n i).structs = Code.structs := rfl
@[rs_eval] theorem pollerCtx_enums (n i) : (pollerCtx n i).enums = Code.enums := rfl
@[rs_eval] theorem pollerCtx_nowNs (n i) : (pollerCtx n i).nowNs = n := rfl
@[rs_eval] theorem pollerCtx_enumDiscr (n i) : (pollerCtx n i).enumDiscr = Code.enumDiscr := rfl
@[rs_eval] theorem pollerCtx_sizes (n i) : (pollerCtx n i).sizes = [] := rfl
@[rs_eval] theorem pollerCtx_inp (n i) : (pollerCtx n i).inp = i := rfl
@[rs_eval] theorem pollerCtx_ext (n i) : (pollerCtx n i).ext = DictThreads.ext := rfl

attribute [rs_eval] abstractedP

@[rs_eval] theorem pollerFns_lookup (k : String) :
    pollerFns.lookup k = if abstractedP.contains k then none else Code.fns.lookup k :=
  lookup_filter_keys abstractedP Code.fns k

@[rs_eval] theorem pollerFns_cands_tracking :
    traitImplCands pollerFns "ClockErrorBoundPoller" "get_tracking" = [] := by
  simp only [pollerFns, rs_code, rs_eval, rs_base]

@[rs_eval] theorem pollerFns_cands_grace :
    traitImplCands pollerFns "ClockErrorBoundPoller" "is_within_grace_period" = [] := by
  simp only [pollerFns, rs_code, rs_eval, rs_base]

-- the poll half by the library's whole simp set, one call per shape and use (`poller_loop_tie` does without)
/-- the poll half, every variant: the facts `simp` needs about the inputs it reads -/
macro "poll_half" poll:ident phc:ident hp:ident hm:ident : tactic => `(tactic| (
  cases $poll:ident with
  | clockErr e =>
    simp only [Poll.inputs, inputsAt] at $hp:ident
    simp [rs_eval, rs_code, abstractedP, ($hp:ident).1, Poll.events, Poll.inputs, clockId, ctimespecValue]
  | data a t =>
    simp only [Poll.inputs, inputsAt] at $hp:ident
    obtain ⟨h1, h2, h3, _⟩ := $hp:ident
    simp only [Nat.add_assoc, Nat.reduceAdd] at h1 h2 h3
    rcases $phc:ident with _ | ⟨r, q⟩
    · simp [rs_eval, rs_code, abstractedP, h1, h2, h3, Poll.events, Poll.inputs, Poll.msg, clockId, ctimespecValue, phcValue, trackingValue,
        sendResult, Nat.add_assoc]
    · have hne : t.refid ≠ r := $hm:ident r q rfl
      have hne' : ¬ ((r : Int) = (t.refid : Int)) := fun h => hne (Int.ofNat_inj.mp h).symm
      simp [rs_eval, rs_code, abstractedP, h1, h2, h3, Poll.events, Poll.inputs, Poll.msg, clockId, ctimespecValue, phcValue, trackingValue,
        sendResult, Nat.add_assoc, hne']
  | noReply a g =>
    simp only [Poll.inputs, inputsAt] at $hp:ident
    obtain ⟨h1, h2, h3, h4, _⟩ := $hp:ident
    simp only [Nat.add_assoc, Nat.reduceAdd] at h1 h2 h3 h4
    cases g <;>
      simp [rs_eval, rs_code, abstractedP, h1, h2, h3, h4, Poll.events, Poll.inputs, Poll.msg, clockId, ctimespecValue, sendResult,
        Nat.add_assoc] at h4 ⊢ <;> simp [rs_eval, h4]))

/-- the poll half when the send to the writer fails: it panics -/
macro "poll_half_fail" poll:ident phc:ident hp:ident hm:ident hs:ident : tactic => `(tactic| (
  cases $poll:ident with
  | clockErr e => simp [Poll.sends] at $hs:ident
  | data a t =>
    simp only [Poll.inputs, inputsAt] at $hp:ident
    obtain ⟨h1, h2, h3, _⟩ := $hp:ident
    simp only [Nat.add_assoc, Nat.reduceAdd] at h1 h2 h3
    rcases $phc:ident with _ | ⟨r, q⟩
    · simp [rs_eval, rs_code, abstractedP, h1, h2, h3, Poll.msg, phcValue, trackingValue, ctimespecValue, sendResult, Nat.add_assoc]
    · have hne : t.refid ≠ r := $hm:ident r q rfl
      have hne' : ¬ ((r : Int) = (t.refid : Int)) := fun h => hne (Int.ofNat_inj.mp h).symm
      simp [rs_eval, rs_code, abstractedP, h1, h2, h3, Poll.msg, phcValue, trackingValue, ctimespecValue, sendResult, Nat.add_assoc, hne']
  | noReply a g =>
    simp only [Poll.inputs, inputsAt] at $hp:ident
    obtain ⟨h1, h2, h3, h4, _⟩ := $hp:ident
    simp only [Nat.add_assoc, Nat.reduceAdd] at h1 h2 h3 h4
    cases g <;> simp [rs_eval, rs_code, abstractedP, h1, h2, h3, h4, Poll.msg, ctimespecValue, sendResult, Nat.add_assoc] at h4 ⊢ <;>
      try simp [rs_eval, h4]))

open scoped ClockBound.Rs.CallByValue

/-- `k` trips that let the loop go on, then the poll half of the last trip: a failed send panics; otherwise what is
    left is the last mailbox check, and the loop after it -/
theorem poller_trips {ctx : Ctx} {fr : Frame} {c e1 : Expr} {s1 : Bool} {r : Stmt} {rs : List Stmt}
    (phc : Option (Nat × Value)) (d : Int) (env : List (String × Value)) (d0 : Nat)
    (hc : ∀ log pos N, d0 ≤ N → eval N ctx fr c ⟨env, log, pos⟩ = .val (.bool true) ⟨env, log, pos⟩)
    (hpoll : ∀ (p : Poll) (ok : Bool) log pos N, d0 ≤ N → inputsAt ctx.inp pos (p.inputs ok) → p.phcMiss phc →
      (ok = false → p.sends = true) →
      eval N ctx fr e1 ⟨env, log, pos⟩
        = if ok = true then .val .unit ⟨env, log ++ p.events true, pos + (p.inputs true).length⟩ else .panic)
    (hwait : ∀ (w : RecvT) log pos N, d0 ≤ N → ctx.inp pos = w.value → w.continues = true → ∀ next : St → Res,
      ((evalBlock N ctx fr (r :: rs) ⟨env, log, pos⟩).popTo env.length).loopNext next
        = next ⟨env, log ++ [evRecvTimeout (chanValue .poller) (.duration d) w.value], pos + 1⟩)
    (k : Nat) (it : Nat → PIter) (hcont : ∀ i, i < k → (it i).wait.continues = true)
    (hmiss : ∀ i, i < k → (it i).poll.phcMiss phc) (e : PEnd) (hmissE : e.poll.phcMiss phc)
    (hsend : ∀ p, e = .sendFailed p → p.sends = true)
    (log : List Value) (pos : Nat) (hits : ∀ i, i < k → inputsAt ctx.inp (pos + inputsBefore it i) (it i).inputs)
    (hend : inputsAt ctx.inp (pos + inputsBefore it k) e.inputs) (N : Nat) (hN : d0 ≤ N) :
    evalWhile (N + 2 + k) ctx fr c (.expr e1 s1 :: r :: rs) ⟨env, log, pos⟩
    = match (generalizing := false) e with
      | .sendFailed _ => .panic
      | .abort p =>
        ((evalBlock N ctx fr (r :: rs)
            ⟨env, log ++ (eventsBefore d it k ++ p.events true), pos + (inputsBefore it k + (p.inputs true).length)⟩).popTo
          env.length).loopNext fun st => evalWhile (N + 1) ctx fr c (.expr e1 s1 :: r :: rs) st := by
  rw [evalWhile_skip (d := d0 + 2) (k := k) (P := inputsBefore it) (E := eventsBefore d it) ⟨env, log, pos⟩ rfl rfl
    (fun i _ M hM => hc _ _ M (by omega)) ?hb (N + 2) (by omega)]
  case hb =>
    intro i hi M hM next
    obtain ⟨M, rfl⟩ : ∃ M', M = M' + 1 := ⟨M - 1, by omega⟩
    have hii := hits i hi
    simp only [PIter.inputs, inputsAt_append] at hii
    rw [evalBlock_expr_cons, hpoll (it i).poll true _ _ M (by omega) hii.1 (hmiss i hi) (by simp), if_pos rfl,
      Res.bind_val, hwait (it i).wait _ _ M (by omega) hii.2.1 (hcont i hi)]
    simp [eventsBefore, inputsBefore, PIter.events, PIter.inputs, Nat.add_assoc]
  rw [evalWhile_true (h := hc _ _ _ (by omega)), evalBlock_expr_cons]
  cases e with
  | abort p =>
    simp only [PEnd.inputs, inputsAt_append] at hend
    rw [hpoll p true _ _ N hN hend.1 hmissE (by simp), if_pos rfl, Res.bind_val]
    simp [Nat.add_assoc]
  | sendFailed p =>
    rw [hpoll p false _ _ N hN hend hmissE (fun _ => hsend p rfl), if_neg (by simp)]
    rfl

theorem poller_loop_tie (ks : List Thread) (fs : List (String × Value)) (phc : Option (Nat × Value)) (d : Int)
    (k : Nat) (it : Nat → PIter) (hcont : ∀ i, i < k → (it i).wait.continues = true)
    (hmiss : ∀ i, i < k → (it i).poll.phcMiss phc) (e : PEnd) (hmissE : e.poll.phcMiss phc)
    (hsend : ∀ p, e = .sendFailed p → p.sends = true)
    (nowNs : Int) (inp : Nat → Value) (env : List (String × Value)) (log : List Value) (pos : Nat)
    (hin : inputsAt inp pos (loopInputs k it e)) (N : Nat) (hN : k + 100 ≤ N) :
    callDecl N (pollerCtx nowNs inp)
      Code.fn_chrony_poller__run_clock_error_bound_poller .unit
      [contextValue .poller ks, .struct "ClockErrorBoundPoller" fs, phcValue phc, .duration d] ⟨env, log, pos⟩
    = match e with
      | .abort _ =>
        .val (.tuple [.unit, .unit]) ⟨env, log ++ loopEvents d k it e, pos + (inputsBefore it k + e.inputs.length)⟩
      | .sendFailed _ => .panic := by
  obtain ⟨F, rfl⟩ : ∃ F, N = F + k + 100 := ⟨N - k - 100, by omega⟩
  obtain ⟨hits, hend⟩ := inputsAt_chunks inp pos (fun i => (it i).inputs) (inputsBefore it) rfl (fun i => rfl) k
    e.inputs hin
  simp -implicitDefEqProofs only [rs_eval, rs_base, rs_code, contextValue, dispatchValue, allChans]
  rw [Nat.add_right_comm F k]
  rw [poller_trips phc d _ 60 ?hc ?hpoll ?hwait k it hcont hmiss e hmissE hsend log pos hits hend _ (by omega)]
  case hc =>
    intro log pos N hN
    obtain ⟨M, rfl⟩ := Nat.exists_eq_add_of_le' hN
    simp -implicitDefEqProofs only [rs_eval, rs_base, rs_code]
  case hpoll =>
    intro p ok log pos N hN hp hm hs
    obtain ⟨M, rfl⟩ := Nat.exists_eq_add_of_le' hN
    cases p with
    | clockErr e =>
      obtain rfl : ok = true := by simpa [Poll.sends] using hs
      simp only [Poll.inputs, inputsAt, pollerCtx_inp, and_true] at hp
      simp -implicitDefEqProofs only [rs_eval, rs_base, rs_code, hp, Poll.events, Poll.inputs, clockId]
    | data a t =>
      simp only [Poll.inputs, inputsAt, pollerCtx_inp, and_true, Nat.add_assoc, Nat.reduceAdd] at hp
      rcases phc with _ | ⟨r, q⟩
      · cases ok <;>
          simp -implicitDefEqProofs only [rs_eval, rs_base, rs_code, hp, Poll.events, Poll.inputs, Poll.msg, clockId,
            ctimespecValue, phcValue, trackingValue, sendResult, Nat.add_assoc]
      · have hne : ¬ ((r : Int) = (t.refid : Int)) := fun h => hm r q rfl (Int.ofNat_inj.mp h).symm
        cases ok <;>
          simp -implicitDefEqProofs only [rs_eval, rs_base, rs_code, hp, hne, Poll.events, Poll.inputs, Poll.msg, clockId,
            ctimespecValue, phcValue, trackingValue, sendResult, Nat.add_assoc]
    | noReply a g =>
      simp only [Poll.inputs, inputsAt, pollerCtx_inp, and_true, Nat.add_assoc, Nat.reduceAdd] at hp
      cases g <;> cases ok <;>
        simp -implicitDefEqProofs only [rs_eval, rs_base, rs_code, hp, Poll.events, Poll.inputs, Poll.msg, clockId,
          ctimespecValue, sendResult, Nat.add_assoc]
  case hwait =>
    intro w log pos N hN hw hco next
    obtain ⟨M, rfl⟩ := Nat.exists_eq_add_of_le' hN
    cases w with
    | ok m =>
      have hna : m.isAbort = false := by simpa [RecvT.continues] using hco
      obtain ⟨name, args, hv, hne⟩ := value_nonAbort m hna
      simp only [RecvT.value, hv, pollerCtx_inp] at hw ⊢
      simp -implicitDefEqProofs only [rs_eval, rs_base, rs_code, hw, hne]
    | timeout | disconnected =>
      simp only [RecvT.value, pollerCtx_inp] at hw ⊢
      simp -implicitDefEqProofs only [rs_eval, rs_base, rs_code, hw]
  cases e with
  | abort p =>
    simp only [PEnd.inputs, inputsAt_append, inputsAt, RecvT.value, RMsg.value, and_true, Nat.add_assoc] at hend
    simp -implicitDefEqProofs only [rs_eval, rs_base, rs_code, hend.2]
    -- a flag-controlled `while` goes round once more and finds its condition false; a `loop` has left by `break`
    try rw [evalWhile_succ]
    simp -implicitDefEqProofs only [rs_eval, rs_base, rs_code, loopEvents, PEnd.events, PEnd.inputs,
      RecvT.value, RMsg.value, Nat.add_assoc]
  | sendFailed p => simp only [rs_eval, rs_base, rs_code]

/-- the call of the loop function under a name `simp` does not unfold (as `bcastCall` in `RsThreadsMain.lean`):
    `poller_loop_tie` rewrites it once its arguments are values -/
def pollerLoopCall (N : Nat) (ctx : Ctx) (s : Value) (a : List Value) (st : St) : Res :=
  callDecl N ctx Code.fn_chrony_poller__run_clock_error_bound_poller s a st

theorem pollerLoopCall_wrap (N : Nat) (ctx : Ctx) (s : Value) (a : List Value) (st : St) :
    callDecl N ctx Code.fn_chrony_poller__run_clock_error_bound_poller s a st = pollerLoopCall N ctx s a st := rfl

theorem ascribe_contextValue (ty : String) (c : Thread) (ks : List Thread) :
    ascribe ty (contextValue c ks) = some (contextValue c ks) := rfl

/-- what start-up reads: `Instant::now()` and `checked_sub(CHRONY_RESTART_GRACE_PERIOD)` (which is `Some`) -/
def pollerStartInputs (i0 i1 : Value) : List Value := [.ext "Instant" [i0], .enumv "Some" [.ext "Instant" [i1]]]

def pollerStartEvents (i0 i1 : Value) : List Value :=
  [evOp "Instant::now" [] (.ext "Instant" [i0]),
   evOp "Instant::checked_sub" [.ext "Instant" [i0], .duration 5000000000] (.enumv "Some" [.ext "Instant" [i1]])]

/-- how the thread function ends: it returns (its Context is then dropped normally: `ThreadTerminate`), or it panics
    (dropped while unwinding: `ThreadPanic`) -/
def pollerOutcome (e : PEnd) (log : List Value) : Rs.Outcome :=
  match e with
  | .abort _ => .ok .unit .unit log
  | .sendFailed _ => .panic

end ClockBound.Rs.ThreadsProof

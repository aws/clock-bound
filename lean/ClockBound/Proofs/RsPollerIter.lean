/-
  The translation tie for the chrony poller, part 2: one turn of the loop of `run_clock_error_bound_poller`.

  The loop body is `poll; wait` with `poll` a `match` on the clock read (`hb`, `hq`: all that is used of its shape):
  `after_poll`   the turn, given what `poll` evaluates to: `wait` and the loop's condition are evaluated here, once;
  `clock_read`   the scrutinee of `poll`, once;
  `poll_spec`    what `poll` does in the model's terms (`PollIs`), by cases on reply, PHC configuration and state of the
                 sysfs file.  In each case: the model's trace and the inputs it provides, one evaluation that rewrites
                 with the callees' equations of `Proofs/RsPoller.lean` and leaves the result of `send` open, and the
                 term that remains closed twice, for `Ok(())` and for `Err(x)`;
  `turn`         the two put together.
-/
import ClockBound.Proofs.RsPoller
import ClockBound.Proofs.Poller
namespace ClockBound.Rs.PollerProof
open ClockBound ClockBound.Rs ClockBound.Generated ClockBound.Rs.DictPoller ClockBound.Rs.NowProof

open scoped ClockBound.Rs.CallByValue
attribute [-rs_eval] List.lookup

/-! the loop function passes its poller and its PHC configuration on, whatever is in them (`pathBuf` stays folded, as
    the callee's equation has it) -/

attribute [-rs_eval] DictPoller.pathBuf

@[rs_eval] theorem ascribe_optPhcValue (ty path : String) (refid : Option Nat) :
    ascribe ty (optPhcValue path refid) = some (optPhcValue path refid) := by
  cases refid <;> rfl

/-- `r` is what `poll` evaluates to on a turn whose message is `m` and that leads to the top state `st`: a panic if
    `m` is `panic`; else `()` in `st` when `send` returns `Ok(())`, and a panic ("Broken channel to ShmWriter") when it
    returns `Err(x)` (the receiving end of the channel is gone) -/
def PollIs (e : IterEnv) (r : Res) (m : PollMsg) (st : St) : Prop :=
  if m = .panic then r = .panic
  else (e.sendRes = okUnit → r = .val .unit st) ∧ ∀ x, e.sendRes = .enumv "Err" [x] → r = .panic

section
variable {pre : List Stmt} {c : Expr} {body : List Stmt}
  (hfl : findLoop Code.fn_chrony_poller__run_clock_error_bound_poller_stmts = some (pre, c, body))
  {poll : Expr} {b1 : Bool} {wait : Stmt} (hb : body = [.expr poll b1, wait])
  {clk : Expr} {arms : List Arm} (hq : poll = .matchE clk arms)
  (e : IterEnv) (s : PollerState) (refid : Option Nat) (nowNs : Int) (inp : Nat → Value) (log : List Value) (pos : Nat)
include hfl hb

/-- the turn, given what `poll` evaluates to: if it completes, `wait`, then the loop is over or goes on; if it panics,
    so does the loop -/
theorem after_poll (M : Nat) :
    (∀ (s' : PollerState) (l' : List Value) (p' : Nat) (v : Value),
      eval (M + 60) (pctx nowNs inp) frP poll (topP nowNs inp pre e s refid log pos)
        = .val v (topP nowNs inp pre e s' refid l' p') →
      inp p' = e.recvRes →
      turnIs (ctxP nowNs [] inp) frP c body (M + 60)
        (evalWhile (M + 60 + 2) (ctxP nowNs [] inp) frP c body (topP nowNs inp pre e s refid log pos))
        (if e.isAbort = true then .done (l' ++ [pollEvValue e .wait]) (p' + 1)
         else .next (topP nowNs inp pre e s' refid (l' ++ [pollEvValue e .wait]) (p' + 1)))) ∧
    (eval (M + 60) (pctx nowNs inp) frP poll (topP nowNs inp pre e s refid log pos) = .panic →
      evalWhile (M + 60 + 2) (ctxP nowNs [] inp) frP c body (topP nowNs inp pre e s refid log pos) = .panic) := by
  subst hb
  simp only [rs_eval, rs_base, rs_code, Stmt.expr.injEq, and_assoc] at hfl
  obtain ⟨rfl, rfl, -, rfl, rfl⟩ := hfl
  simp only [topP, ctxP_eq, pollerArgs, contextValue, pollerValue_eq]
  rw [evalWhile_true (h := by
    simp -implicitDefEqProofs only [rs_eval, rs_base, rs_code])]
  constructor
  · intro s' l' p' v hpoll hrecv
    simp -implicitDefEqProofs only [rs_eval, rs_base, rs_code] at hpoll
    cases hro : e.recvOk
    · simp -implicitDefEqProofs only [rs_eval, rs_base, rs_code, pollEvValue, IterEnv.recvRes,
        IterEnv.isAbort, Nat.add_assoc, turnIs_next, hpoll, hrecv, hro]
    · by_cases hab : e.recvVariant = "Message::ThreadAbort"
      · simp -implicitDefEqProofs only [rs_eval, rs_base, rs_code, pollEvValue,
          IterEnv.recvRes, IterEnv.isAbort, turnIs_done, hpoll, hrecv, hro, hab]
        -- a loop that ends by `break` is over here; one that ends by its flag evaluates its condition once more
        all_goals
          rw [evalWhile_false (h := by simp -implicitDefEqProofs only [rs_eval, rs_base, rs_code])]
          exact ⟨_, rfl, rfl, rfl, rfl⟩
      · simp -implicitDefEqProofs only [rs_eval, rs_base, rs_code, pollEvValue,
          IterEnv.recvRes, IterEnv.isAbort, Nat.add_assoc, turnIs_next, hpoll, hrecv, hro, hab]
  · intro hpoll
    simp -implicitDefEqProofs only [rs_eval, rs_base, rs_code] at hpoll
    simp -implicitDefEqProofs only [rs_eval, rs_base, rs_code, hpoll]

include hq

/-- the scrutinee of `poll`: `clock_gettime_safe(CLOCK_MONOTONIC)` (id 6 on Linux), whatever it returns -/
theorem clock_read (N : Nat) :
    eval (N + 20) (pctx nowNs inp) frP clk (topP nowNs inp pre e s refid log pos)
    = .val (inp pos) (topP nowNs inp pre e s refid (log ++ [evClockRead (clockId 6) (inp pos)]) (pos + 1)) := by
  subst hb hq
  simp only [rs_eval, rs_base, rs_code, Stmt.expr.injEq, Expr.matchE.injEq, and_assoc] at hfl
  obtain ⟨rfl, -, rfl, -⟩ := hfl
  simp only [topP, ctxP_eq, pollerArgs, contextValue, pollerValue_eq]
  simp -implicitDefEqProofs only [rs_eval, rs_base, rs_code]

/-- `poll` on the inputs of a turn, in the model's terms: its message, its new poller state, its events before the
    wait -/
theorem poll_spec (hother : e.other ≠ "ReplyBody::Tracking") (coarse : TimeSpec) (reply : ReplyKind)
    (tReply tGrace : Int) (file : PhcFile)
    (hin : inputsAt inp pos ((pollTrace s coarse reply tReply tGrace (phcOf refid file)).map (pollEvInput e)))
    (M : Nat) :
    PollIs e (eval (M + 60) (pctx nowNs inp) frP poll (topP nowNs inp pre e s refid log pos))
      (pollStep s coarse reply tReply tGrace (phcOf refid file)).2
      (topP nowNs inp pre e (pollStep s coarse reply tReply tGrace (phcOf refid file)).1 refid
        (log ++ (pollTrace s coarse reply tReply tGrace (phcOf refid file)).dropLast.map (pollEvValue e))
        (pos + (pollTrace s coarse reply tReply tGrace (phcOf refid file)).dropLast.length)) := by
  have h0 : inp pos = okTimespec coarse := hin.1
  have hc := clock_read hfl hb hq e s refid nowNs inp log pos
  subst hb hq
  simp only [rs_eval, rs_base, rs_code, Stmt.expr.injEq, Expr.matchE.injEq, and_assoc] at hfl
  obtain ⟨rfl, -, -, rfl, -⟩ := hfl
  generalize hR : eval (M + 60) _ _ _ _ = R
  simp only [topP, ctxP_eq, pollerArgs, contextValue, pollerValue_eq, okTimespec, ctimespecValue] at h0 hc hR ⊢
  simp -implicitDefEqProofs only [rs_eval, rs_base, rs_code, h0] at hc
  by_cases hr : reply.isSilence = true
  · -- chronyd is silent: the grace period decides
    have hne : (if s.withinGrace tGrace then PollMsg.nrGrace else .nr) ≠ .panic := by
      split <;> exact PollMsg.noConfusion
    have htr : pollTrace s coarse reply tReply tGrace (phcOf refid file)
        = [.readMonoCoarse coarse, .query reply, .readMono tGrace,
            .send (if s.withinGrace tGrace then .nrGrace else .nr), .wait] := by
      cases reply <;> first | rfl | simp [ReplyKind.isSilence] at hr
    simp only [PollIs, pollStep_silence _ _ _ _ _ _ hr, htr, hne, List.dropLast, List.map, List.length, inputsAt,
      pollEvInput, pollEvValue, okTimespec, ctimespecValue, if_false] at hin ⊢
    obtain ⟨-, h1, h2, h3, -⟩ := hin
    -- `phc_info` is not looked at here, but a helper function that is given it has to see what it is
    cases refid <;>
    · simp only [optPhcValue] at hc hR ⊢
      simp -implicitDefEqProofs only [rs_eval, rs_base, rs_code, hc,
        ↓get_tracking_silence e (hother := hother) (hr := hr) (h0 := h1), ↓grace_call (s := s) (h0 := h2)] at hR
      subst hR
      constructor
      · intro hs
        simp -implicitDefEqProofs only [rs_eval, rs_base, rs_code, h3, hs]
        cases s.withinGrace tGrace <;> rfl
      · intro x hs
        simp -implicitDefEqProofs only [rs_eval, rs_base, rs_code, h3, hs]
  obtain ⟨t, rfl⟩ : ∃ t, reply = .tracking t := by
    cases reply <;> simp [ReplyKind.isSilence] at hr ⊢
  by_cases hphc : refid = some t.refid
  · subst hphc
    cases hread : file.read with
    | none =>
      -- the sysfs file does not hold an `i64`: the `expect` panics
      simp only [PollIs, pollStep, pollTrace, phcOf, Option.map, List.map, inputsAt, pollEvInput, optPhcValue, if_true,
        hread] at hin hc hR ⊢
      obtain ⟨-, h1, h2, h3, -⟩ := hin
      simp -implicitDefEqProofs only [rs_eval, rs_base, rs_code, hc, trackingValue, pollEvValue,
        ↓get_tracking_tracking e (s := s) (h0 := h1) (h1 := h2), ↓phc_read_call e (h0 := h3), hread] at hR
      exact hR.symm
    | some o =>
      cases o with
      | none =>
        -- the sysfs file cannot be read: the grace period (from this reply on) decides
        have hne : (if (PollerState.mk tReply).withinGrace tGrace then PollMsg.phcGrace else .phcFail) ≠ .panic := by
          split <;> exact PollMsg.noConfusion
        simp only [PollIs, pollStep, pollTrace, phcOf, Option.map, List.dropLast, List.map, List.length, inputsAt,
          pollEvInput, pollEvValue, okTimespec, ctimespecValue, optPhcValue, if_true, if_false, hread, hne]
          at hin hc hR ⊢
        obtain ⟨-, h1, h2, h3, h4, h5, -⟩ := hin
        simp -implicitDefEqProofs only [rs_eval, rs_base, rs_code, hc, trackingValue, pollEvValue,
          ↓get_tracking_tracking e (s := s) (h0 := h1) (h1 := h2), ↓phc_read_call e (h0 := h3), hread,
          ↓grace_call (s := ⟨tReply⟩) (h0 := h4)] at hR
        subst hR
        constructor
        · intro hs
          simp -implicitDefEqProofs only [rs_eval, rs_base, rs_code, h5, hs]
          cases (PollerState.mk tReply).withinGrace tGrace <;> rfl
        · intro x hs
          simp -implicitDefEqProofs only [rs_eval, rs_base, rs_code, h5, hs]
      | some v =>
        -- the sysfs file holds a bound: the data with it
        simp only [PollIs, pollStep, pollTrace, phcOf, Option.map, List.dropLast, List.map, List.length, inputsAt,
          pollEvInput, pollEvValue, pollMsgValue, okTimespec, ctimespecValue, trackingValue, optPhcValue,
          reduceCtorEq, if_true, if_false, hread] at hin hc hR ⊢
        obtain ⟨-, h1, h2, h3, h4, -⟩ := hin
        simp -implicitDefEqProofs only [rs_eval, rs_base, rs_code, hc, trackingValue, pollEvValue,
          ↓get_tracking_tracking e (s := s) (h0 := h1) (h1 := h2), ↓phc_read_call e (h0 := h3), hread] at hR
        subst hR
        constructor
        · intro hs
          simp -implicitDefEqProofs only [rs_eval, rs_base, rs_code, h4, hs]
        · intro x hs
          simp -implicitDefEqProofs only [rs_eval, rs_base, rs_code, h4, hs]
  · -- the PHC is not configured or not chronyd's reference: the data with a PHC bound of `0`
    have hne : ∀ r, refid = some r → (r = t.refid) = False := by
      rintro r rfl
      simpa using hphc
    cases refid <;>
    · simp only [PollIs, pollStep, pollTrace, phcOf, Option.map, List.dropLast, List.map, List.length, inputsAt,
        pollEvInput, pollEvValue, pollMsgValue, okTimespec, ctimespecValue, trackingValue, optPhcValue,
        reduceCtorEq, if_false, hne] at hin hc hR ⊢
      obtain ⟨-, h1, h2, h3, -⟩ := hin
      simp -implicitDefEqProofs only [rs_eval, rs_base, rs_code, hc, trackingValue, pollEvValue,
        ↓get_tracking_tracking e (s := s) (h0 := h1) (h1 := h2), hne] at hR
      subst hR
      constructor
      · intro hs
        simp -implicitDefEqProofs only [rs_eval, rs_base, rs_code, h3, hs]
      · intro x hs
        simp -implicitDefEqProofs only [rs_eval, rs_base, rs_code, h3, hs]

/-- `poll` when the clock read fails: the error is logged (`error!`), chronyd is not asked, nothing is sent -/
theorem poll_clock_fails (x : Value) (h0 : inp pos = .enumv "Err" [x]) (M : Nat) :
    eval (M + 60) (pctx nowNs inp) frP poll (topP nowNs inp pre e s refid log pos)
    = .val .unit (topP nowNs inp pre e s refid (log ++ [evClockRead (clockId 6) (.enumv "Err" [x])]) (pos + 1)) := by
  have hc := clock_read hfl hb hq e s refid nowNs inp log pos
  subst hb hq
  simp only [rs_eval, rs_base, rs_code, Stmt.expr.injEq, Expr.matchE.injEq, and_assoc] at hfl
  obtain ⟨rfl, -, -, rfl, -⟩ := hfl
  simp only [topP, ctxP_eq, pollerArgs, contextValue, pollerValue_eq] at hc ⊢
  simp -implicitDefEqProofs only [rs_eval, rs_base, rs_code, h0] at hc
  simp -implicitDefEqProofs only [rs_eval, rs_base, rs_code, hc]

end

/-- the loop body is of the shape the lemmas above use -/
theorem body_shape {pre : List Stmt} {c : Expr} {body : List Stmt}
    (hfl : findLoop Code.fn_chrony_poller__run_clock_error_bound_poller_stmts = some (pre, c, body)) :
    ∃ poll b1 wait clk arms, body = [.expr poll b1, wait] ∧ poll = .matchE clk arms := by
  simp only [rs_eval, rs_base, rs_code] at hfl
  obtain ⟨-, -, rfl⟩ := hfl
  exact ⟨_, _, _, _, _, rfl, rfl⟩

theorem inputsAt_append (inp : Nat → Value) (a b : List Value) (p : Nat) :
    inputsAt inp p (a ++ b) ↔ inputsAt inp p a ∧ inputsAt inp (p + a.length) b := by
  induction a generalizing p with
  | nil => simp [inputsAt]
  | cons v a ih =>
    simp only [List.cons_append, inputsAt, ih, List.length_cons, and_assoc]
    rw [show p + 1 + a.length = p + (a.length + 1) by omega]

/-- ONE TURN of the loop of `run_clock_error_bound_poller` (however it is written: `findLoop`) on the inputs `x`, from
    its top state with poller state `s`; `e0` has the sysfs path and the sleep time the function was called with.
    When `send` returns `Ok(())`: the thread panics where the model's message is `panic`; else, the events of
    `pollTrace` appended to the log and as many inputs consumed, the loop is over if `recv_timeout` returned
    `Ok(ThreadAbort)` and otherwise goes on from the top state with the model's new poller state.  When `send` returns
    `Err(v)` (the receiving end of the channel is gone), the thread panics ("Broken channel to ShmWriter"). -/
theorem turn (nowNs : Int) (inp : Nat → Value) (refid : Option Nat) (pre : List Stmt) (c : Expr) (body : List Stmt)
    (hfl : findLoop Code.fn_chrony_poller__run_clock_error_bound_poller_stmts = some (pre, c, body))
    (e0 : IterEnv) (x : IterIn) (h1 : x.env.path = e0.path) (h2 : x.env.sleepNs = e0.sleepNs)
    (hother : x.env.other ≠ "ReplyBody::Tracking") (s : PollerState) (log : List Value) (pos : Nat)
    (hin : inputsAt inp pos ((x.trace refid s).map (pollEvInput x.env))) (K : Nat) (hK : 60 ≤ K) :
    (x.env.sendRes = okUnit →
      turnIs (ctxP nowNs [] inp) frP c body K
        (evalWhile (K + 2) (ctxP nowNs [] inp) frP c body (topP nowNs inp pre e0 s refid log pos))
        (if (x.it.step refid s).2 = .panic then .panic
         else if x.env.isAbort = true then
           .done (log ++ (x.trace refid s).map (pollEvValue x.env)) (pos + (x.trace refid s).length)
         else .next (topP nowNs inp pre e0 (x.it.step refid s).1 refid
            (log ++ (x.trace refid s).map (pollEvValue x.env)) (pos + (x.trace refid s).length)))) ∧
    ∀ v, x.env.sendRes = .enumv "Err" [v] →
      evalWhile (K + 2) (ctxP nowNs [] inp) frP c body (topP nowNs inp pre e0 s refid log pos) = .panic := by
  obtain ⟨M, rfl⟩ : ∃ M, K = M + 60 := ⟨K - 60, by omega⟩
  obtain ⟨poll, b1, wait, clk, arms, hb, hq⟩ := body_shape hfl
  have hargs : ∀ s, pollerArgs e0 s refid = pollerArgs x.env s refid := fun s => by simp [pollerArgs, h1, h2]
  simp only [topP, hargs, IterIn.trace, PollIter.step, PollIter.phc] at hin ⊢
  have hpoll := poll_spec hfl hb hq x.env s refid nowNs inp log pos hother _ _ _ _ _ hin M
  obtain ⟨hval, hpanic⟩ := after_poll hfl hb x.env s refid nowNs inp log pos M
  unfold PollIs at hpoll
  split at hpoll
  next hpan =>
    rw [if_pos hpan]
    exact ⟨fun _ => hpanic hpoll, fun _ _ => hpanic hpoll⟩
  next hpan =>
    rw [if_neg hpan]
    refine ⟨fun hsend => ?_, fun v hsend => hpanic (hpoll.2 v hsend)⟩
    obtain ⟨d, hd, -⟩ := Poller.pollTrace_ends_with_wait _ _ _ _ _ _ hpan
    rw [hd, List.dropLast_concat] at hpoll
    rw [hd, List.map_append, inputsAt_append, List.length_map] at hin
    have := hval _ _ _ _ (hpoll.1 hsend) hin.2.1
    simpa only [hd, List.map_append, List.map_cons, List.map_nil, List.length_append, List.length_cons,
      List.length_nil, List.append_assoc, Nat.add_assoc, Nat.zero_add] using this

theorem iteration (e : IterEnv) (s : PollerState) (coarse : TimeSpec) (reply : ReplyKind) (tReply tGrace : Int)
    (refid : Option Nat) (file : PhcFile) : IterStmt e s coarse reply tReply tGrace refid file := by
  intro nowNs inp log pos pre c body hfl hother hsend hin K hK
  exact (turn nowNs inp refid pre c body hfl e ⟨⟨coarse, reply, tReply, tGrace, file⟩, e⟩ rfl rfl hother s log pos hin K
    hK).1 hsend

end ClockBound.Rs.PollerProof

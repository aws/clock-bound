/-
  Proof of the translation tie for `ClockErrorBound::compute_bound_at` (statement in
  `Properties/CodeTieClient.lean`).

  Method (no reference to positions inside the AST):
  1. `simp -implicitDefEqProofs only [rs_eval, rs_base, rs_code]` normalises the interpreter on the generated AST into a
     decision tree over the program's own tests (the status stays symbolic: the `match` on it becomes a test
     `s = ..`; an overflow check is the model's `chk` under an `orPanic`);
  2. the model side is abstracted, the tree is split completely (`repeat' split`);
  3. on every leaf, the hypotheses collected on the path decide every test of the model, which is
     evaluated by `simp` and agrees with the leaf.
  The result is an equation about the call (`Proofs/RsCall.lean`), which `ClockErrorBound::now` uses as it stands.
-/
import ClockBound.Proofs.RsCall
namespace ClockBound.Rs.ClientProof
open ClockBound ClockBound.Rs ClockBound.Generated

open scoped ClockBound.Rs.CallByValue

/-- the tests the `match` on the status becomes -/
theorem statusName_eq_iff (s : Status) :
    (statusName s = "ClockStatus::Unknown" ↔ s = .unknown) ∧
    (statusName s = "ClockStatus::Synchronized" ↔ s = .synchronized) ∧
    (statusName s = "ClockStatus::FreeRunning" ↔ s = .freeRunning) := by
  cases s <;> decide

theorem call_compute_bound_at (r : Record) (real mono : TimeSpec) (nowNs : Int) (ext : Ext)
    (sizes : List (String × Nat)) (inp : Nat → Value) (hext : ext.Conservative) (N : Nat) (st : St) :
    callDecl (N + 40) (Code.ctxWith nowNs ext sizes inp) Code.fn_ClockErrorBound__compute_bound_at
      (recordValue r) [ctimespecValue real, ctimespecValue mono] st
    = (clientOutcome r (computeBoundAt r real mono)).toRes st := by
  obtain ⟨⟨as, an⟩, ⟨vs, vn⟩, bound, drift, res, s⟩ := r
  obtain ⟨rs, rn⟩ := real
  obtain ⟨ms, mn⟩ := mono
  obtain ⟨env, log, pos⟩ := st
  simp only [recordValue, ctimespecValue, statusValue]
  simp -implicitDefEqProofs only [rs_eval, rs_base, chkInt_i64, rs_code, hext.1, hext.2.1, hext.2.2, statusName_eq_iff]
  generalize hM : computeBoundAt _ _ _ = M
  -- the two tests at the top by hand (`split` does not get through the whole tree), the rest of the tree by `split`
  by_cases hd : 1000000000 ≤ drift
  · rw [if_pos hd]
    subst hM
    simp [computeBoundAt, hd, clientOutcome, Outcome.toRes, recordValue, ctimespecValue, statusValue]
  rw [if_neg hd]
  by_cases hs : s = .unknown
  on_goal 1 => rw [if_pos hs]
  on_goal 2 => rw [if_neg hs, if_pos (by cases s <;> simp at hs ⊢)]
  all_goals
    simp only [orPanic]
    repeat' split
  all_goals (subst hM; simp [computeBoundAt, clientStatus, growth, GRACE, BLUR, clientOutcome, Outcome.toRes,
    recordValue, ctimespecValue, statusValue, statusName, *])

end ClockBound.Rs.ClientProof

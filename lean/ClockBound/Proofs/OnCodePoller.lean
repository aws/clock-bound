/-
  Bridging lemmas for `Properties/OnCodePoller.lean`: from the event log of the interpreted poller loop to the
  objects the oracles of C12 (daemon half) and C13 speak about — the messages sent, the observation codes of the
  harness (`PollAction.obs`), the per-iteration chunks of the log.
-/
import ClockBound.Properties.CodeTiePoller
import ClockBound.Properties.C12d
import ClockBound.Properties.C13
namespace ClockBound.OnCode
open ClockBound ClockBound.Rs ClockBound.Generated ClockBound.Rs.DictPoller

/-- the message of a `send` event -/
def sentMsg : Value → Option Value
  | .ext "send" [_, m] => some m
  | _ => none

/-- the messages sent, in order, according to an event log -/
def sentOf (l : List Value) : List Value := l.filterMap sentMsg

/-- what the harness observes of an event (`PollAction.obs` of `Model/Poller.lean`): the clock id of a
    `clock_gettime` (6 = MONOTONIC_COARSE), 1 for an `Instant::now()` (CLOCK_MONOTONIC), −1 the query, −2 the send,
    −3 the wait; the sysfs read is not observed -/
def obsOf : Value → Option Int
  | .ext "clock_gettime_safe" [.int _ id, _] => some id
  | .ext "blocking_query_uds" _ => some (-1)
  | .ext "Instant::now" _ => some 1
  | .ext "send" _ => some (-2)
  | .ext "recv_timeout" _ => some (-3)
  | _ => none

/-- the observation log of a list of events -/
def obsLogOf (l : List Value) : List Int := l.filterMap obsOf

def isWait : Value → Bool
  | .ext "recv_timeout" _ => true
  | _ => false

/-- an event log cut after every wait on the mailbox: one chunk per loop iteration -/
def chunksOf : List Value → List (List Value)
  | [] => []
  | v :: rest =>
    if isWait v then [v] :: chunksOf rest
    else match chunksOf rest with
      | [] => [[v]]
      | c :: cs => (v :: c) :: cs

theorem sentMsg_ev (e : IterEnv) (ev : PollEv) :
    sentMsg (pollEvValue e ev) = (match ev with | .send m => some m | _ => none).map pollMsgValue := by
  cases ev <;> rfl

theorem obsOf_ev (e : IterEnv) (ev : PollEv) : obsOf (pollEvValue e ev) = ev.action.obs := by
  cases ev <;> rfl

theorem isWait_ev (e : IterEnv) (ev : PollEv) : isWait (pollEvValue e ev) = decide (ev = .wait) := by
  cases ev <;> rfl

/-- the events of one iteration: its messages and its observation log -/
theorem iter_sent (e : IterEnv) (refid : Option Nat) (s : PollerState) (x : IterIn) :
    sentOf ((x.trace refid s).map (pollEvValue e))
    = if (x.it.step refid s).2 = .panic then [] else [pollMsgValue (x.it.step refid s).2] := by
  simp only [sentOf, IterIn.trace, List.filterMap_map, Function.comp_def, sentMsg_ev, ← List.map_filterMap]
  refine (congrArg _ (C12d.trace_send_is_step_msg s x.it.asOf x.it.reply x.it.tReply x.it.tGrace (x.it.phc refid))).trans ?_
  unfold PollIter.step
  split <;> rfl

theorem iter_obs (e : IterEnv) (refid : Option Nat) (s : PollerState) (x : IterIn) :
    obsLogOf ((x.trace refid s).map (pollEvValue e)) = obsLog (x.it.actions refid) := by
  rw [PollIter.actions, ← C12d.trace_actions s x.it.asOf x.it.reply x.it.tReply x.it.tGrace]
  simp only [obsLogOf, obsLog, IterIn.trace, List.filterMap_map, Function.comp_def, obsOf_ev]

theorem sentOf_append (a b : List Value) : sentOf (a ++ b) = sentOf a ++ sentOf b := List.filterMap_append

/-! ### chunks -/

theorem chunksOf_append_wait (pre : List Value) (w : Value) (rest : List Value)
    (hpre : ∀ v ∈ pre, isWait v = false) (hw : isWait w = true) :
    chunksOf (pre ++ w :: rest) = (pre ++ [w]) :: chunksOf rest := by
  induction pre with
  | nil => simp [chunksOf, hw]
  | cons v pre ih =>
    simp only [List.mem_cons, forall_eq_or_imp] at hpre
    simp only [List.cons_append, chunksOf, hpre.1, Bool.false_eq_true, if_false, ih hpre.2]

theorem iter_chunk (e : IterEnv) (refid : Option Nat) (s : PollerState) (x : IterIn)
    (hp : (x.it.step refid s).2 ≠ .panic) (rest : List Value) :
    chunksOf ((x.trace refid s).map (pollEvValue e) ++ rest)
    = (x.trace refid s).map (pollEvValue e) :: chunksOf rest := by
  obtain ⟨pre, htr, hpre⟩ := Poller.pollTrace_ends_with_wait s x.it.asOf x.it.reply x.it.tReply x.it.tGrace (x.it.phc refid) hp
  rw [IterIn.trace, htr, List.map_append, List.append_assoc]
  refine chunksOf_append_wait _ _ _ (fun v hv => ?_) (isWait_ev e .wait)
  obtain ⟨ev, hev, rfl⟩ := List.mem_map.1 hv
  rw [isWait_ev, decide_eq_false_iff_not]
  rintro rfl
  exact hpre hev

/-! ### whole runs -/

theorem pollRun_cons_some {refid : Option Nat} {s s' : PollerState} {x : IterIn} {xs : List IterIn} {l : List Value}
    (h : pollRun refid s (x :: xs) = some (s', l)) :
    (x.it.step refid s).2 ≠ .panic ∧ ∃ l', pollRun refid (x.it.step refid s).1 xs = some (s', l') ∧
      l = (x.trace refid s).map (pollEvValue x.env) ++ l' := by
  simp only [pollRun] at h
  split at h
  · cases h
  · obtain ⟨⟨s2, l'⟩, hr, he⟩ := Option.map_eq_some_iff.1 h
    cases he
    exact ⟨‹_›, l', hr, rfl⟩

/-- a run that does not panic: the messages in its log are the model's `Poller.runFrom`; cut after every wait, the log
    is one chunk per iteration, whose observation logs are the model's `Poller.logsFrom` -/
theorem pollRun_log (refid : Option Nat) : ∀ (xs : List IterIn) (s s' : PollerState) (l : List Value),
    pollRun refid s xs = some (s', l) →
    sentOf l = (Poller.runFrom refid s (xs.map IterIn.it)).map pollMsgValue ∧
    (chunksOf l).map obsLogOf = Poller.logsFrom refid s (xs.map IterIn.it) ∧ (chunksOf l).length = xs.length
  | [], s, s', l, h => by
    cases h
    exact ⟨rfl, rfl, rfl⟩
  | x :: xs, s, s', l, h => by
    obtain ⟨hp, l', hr, rfl⟩ := pollRun_cons_some h
    obtain ⟨ih1, ih2, ih3⟩ := pollRun_log refid xs _ _ _ hr
    simp only [List.map_cons, Poller.runFrom, Poller.logsFrom, hp, if_false, sentOf_append, iter_sent,
      iter_chunk x.env refid s x hp, iter_obs, ih1, ih2, ih3, List.length_cons, List.cons_append, List.nil_append,
      and_self]

end ClockBound.OnCode

/-
  The translation tie for the chrony poller, part 3: the whole loop by induction on the list of iterations, and the
  function it is in, on `callDecl` (the equation its caller `run` rewrites with, `CodeTiePoller.run_eq`) and run by name.
-/
import ClockBound.Proofs.RsPollerIter
import ClockBound.Rs.EmbedPollerLoop
namespace ClockBound.Rs.PollerProof
open ClockBound ClockBound.Rs ClockBound.Generated ClockBound.Rs.DictPoller ClockBound.Rs.NowProof

open scoped ClockBound.Rs.CallByValue
attribute [-rs_eval] List.lookup

/-- a loop that ended: `()`, this log, this many inputs consumed, no `self` -/
def LoopDone (r : Res) (l : List Value) (p : Nat) : Prop :=
  ∃ st : St, r = .val .unit st ∧ st.log = l ∧ st.pos = p ∧ envGet st.env "self" = none

/-- what the whole loop does: the model's `pollRun` -/
def LoopIs (r : Res) (log : List Value) (pos n : Nat) : Option (PollerState × List Value) → Prop
  | none => r = .panic
  | some (_, l) => LoopDone r (log ++ l) (pos + n)

/-- the events `l1` and `n1` inputs of a turn that goes on, put in front of what the rest of the loop does -/
theorem LoopIs_map (r : Res) (log l1 : List Value) (pos n1 n2 : Nat) (o : Option (PollerState × List Value)) :
    LoopIs r log pos (n1 + n2) (o.map fun (s', l) => (s', l1 ++ l)) ↔ LoopIs r (log ++ l1) (pos + n1) n2 o := by
  cases o <;> simp [LoopIs, Nat.add_assoc]

section
variable (nowNs : Int) (inp : Nat → Value) (refid : Option Nat) (pre : List Stmt) (c : Expr) (body : List Stmt)
  (hfl : findLoop Code.fn_chrony_poller__run_clock_error_bound_poller_stmts = some (pre, c, body))
  (e0 : IterEnv)
include hfl

/-- a turn that does not end the loop: panic where the model's message is, else the loop goes on -/
theorem turn_next (x : IterIn) (hx : x.ok e0) (hab : x.env.isAbort = false) (s : PollerState) (log : List Value)
    (pos : Nat) (hin : inputsAt inp pos ((x.trace refid s).map (pollEvInput x.env))) (K : Nat) (hK : 60 ≤ K) :
    evalWhile (K + 2) (ctxP nowNs [] inp) frP c body (topP nowNs inp pre e0 s refid log pos)
    = if (x.it.step refid s).2 = .panic then .panic
      else evalWhile (K + 1) (ctxP nowNs [] inp) frP c body (topP nowNs inp pre e0 (x.it.step refid s).1 refid
        (log ++ (x.trace refid s).map (pollEvValue x.env)) (pos + (x.trace refid s).length)) := by
  have T := (turn nowNs inp refid pre c body hfl e0 x hx.1 hx.2.1 hx.2.2.1 s log pos hin K hK).1 hx.2.2.2
  simp only [hab, Bool.false_eq_true, if_false] at T
  split_ifs at T ⊢ <;> exact T

theorem loop (last : IterIn) (hlast : last.ok e0) (habort : last.env.isAbort = true) :
    ∀ (xs : List IterIn) (_hxs : ∀ x ∈ xs, x.ok e0 ∧ x.env.isAbort = false) (s : PollerState) (log : List Value)
      (pos : Nat) (_hin : inputsAt inp pos (pollRunInputs refid s (xs ++ [last]))) (N : Nat)
      (_hN : xs.length + 62 ≤ N),
      LoopIs (evalWhile N (ctxP nowNs [] inp) frP c body (topP nowNs inp pre e0 s refid log pos)) log pos
        (pollRunInputs refid s (xs ++ [last])).length (pollRun refid s (xs ++ [last])) := by
  intro xs
  induction xs with
  | nil =>
    intro _ s log pos hin N hN
    obtain ⟨K, rfl⟩ : ∃ K, N = K + 2 := ⟨N - 2, by omega⟩
    simp only [List.nil_append, pollRunInputs, inputsAt_append] at hin
    have T := (turn nowNs inp refid pre c body hfl e0 last hlast.1 hlast.2.1 hlast.2.2.1 s log pos hin.1 K
      (by omega)).1 hlast.2.2.2
    simp only [habort, if_true] at T
    simp only [List.nil_append, pollRun, pollRunInputs]
    split_ifs at T ⊢
    · exact T
    · simpa [LoopIs, LoopDone, turnIs_done] using T
  | cons x xs ih =>
    intro hxs s log pos hin N hN
    obtain ⟨K, rfl⟩ : ∃ K, N = K + 2 := ⟨N - 2, by omega⟩
    rw [List.forall_mem_cons] at hxs
    rw [List.length_cons] at hN
    simp only [List.cons_append, pollRunInputs, inputsAt_append, List.length_map] at hin
    rw [turn_next nowNs inp refid pre c body hfl e0 x hxs.1.1 hxs.1.2 s log pos hin.1 K (by omega)]
    simp only [List.cons_append, pollRun, pollRunInputs]
    split_ifs at hin ⊢
    · rfl
    · rw [List.length_append, List.length_map, LoopIs_map]
      exact ih hxs.2 _ _ _ hin.2 (K + 1) (by omega)

/-- a run whose last iteration's `send` fails: the thread panics -/
theorem loop_fail (bad : IterIn) (hb1 : bad.env.path = e0.path) (hb2 : bad.env.sleepNs = e0.sleepNs)
    (hb3 : bad.env.other ≠ "ReplyBody::Tracking") (v : Value) (hb4 : bad.env.sendRes = .enumv "Err" [v]) :
    ∀ (xs : List IterIn) (_hxs : ∀ x ∈ xs, x.ok e0 ∧ x.env.isAbort = false) (s : PollerState) (log : List Value)
      (pos : Nat) (_hin : inputsAt inp pos (pollRunInputs refid s (xs ++ [bad]))) (N : Nat)
      (_hN : xs.length + 62 ≤ N),
      evalWhile N (ctxP nowNs [] inp) frP c body (topP nowNs inp pre e0 s refid log pos) = .panic := by
  intro xs
  induction xs with
  | nil =>
    intro _ s log pos hin N hN
    obtain ⟨K, rfl⟩ : ∃ K, N = K + 2 := ⟨N - 2, by omega⟩
    simp only [List.nil_append, pollRunInputs, inputsAt_append] at hin
    exact (turn nowNs inp refid pre c body hfl e0 bad hb1 hb2 hb3 s log pos hin.1 K (by omega)).2 v hb4
  | cons x xs ih =>
    intro hxs s log pos hin N hN
    obtain ⟨K, rfl⟩ : ∃ K, N = K + 2 := ⟨N - 2, by omega⟩
    rw [List.forall_mem_cons] at hxs
    rw [List.length_cons] at hN
    simp only [List.cons_append, pollRunInputs, inputsAt_append, List.length_map] at hin
    rw [turn_next nowNs inp refid pre c body hfl e0 x hxs.1.1 hxs.1.2 s log pos hin.1 K (by omega)]
    split_ifs at hin ⊢
    · rfl
    · exact ih hxs.2 _ _ _ hin.2 (K + 1) (by omega)
end

/-- the outcome of a function that returns `()` after its loop -/
def outOf (log : List Value) : Option (PollerState × List Value) → Outcome
  | none => .panic
  | some (_, l) => .ok .unit .unit (log ++ l)

/-- from the loop to the function: the result of the function whose loop evaluates to `W` -/
theorem outcome_of_loop (W : Res) (log : List Value) (pos n : Nat) (o : Option (PollerState × List Value))
    (h : LoopIs W log pos n o) (G : Res → Outcome)
    (hpanic : G .panic = .panic)
    (hval : ∀ st : St, envGet st.env "self" = none → G (.val .unit st) = .ok .unit .unit st.log) :
    G W = outOf log o := by
  cases o with
  | none => simp only [LoopIs] at h; rw [h, hpanic]; rfl
  | some p =>
    obtain ⟨s', l⟩ := p
    obtain ⟨st, rfl, h1, -, h3⟩ := h
    rw [hval st h3, h1]; rfl

/-- `run_clock_error_bound_poller` on `callDecl`, from an arbitrary caller state, given what its loop does (`hL`, from
    fuel `d` on): it returns `()` with the loop's log, or panics with it -/
theorem loop_fn_call (nowNs : Int) (inp : Nat → Value) (refid : Option Nat) (e0 : IterEnv) (s : PollerState)
    (env : List (String × Value)) (log : List Value) (pos n d : Nat) (o : Option (PollerState × List Value))
    (hL : ∀ pre c body, findLoop Code.fn_chrony_poller__run_clock_error_bound_poller_stmts = some (pre, c, body) →
      ∀ M, d ≤ M →
        LoopIs (evalWhile M (ctxP nowNs [] inp) frP c body (topP nowNs inp pre e0 s refid log pos)) log pos n o)
    (N : Nat) (hN : d + 10 ≤ N) :
    callDecl N (pctx nowNs inp) Code.fn_chrony_poller__run_clock_error_bound_poller .unit (pollerArgs e0 s refid)
      ⟨env, log, pos⟩
    = match (generalizing := false) o with
      | none => .panic
      | some (_, l) => .val (.tuple [.unit, .unit]) ⟨env, log ++ l, pos + n⟩ := by
  obtain ⟨J, rfl⟩ : ∃ J, N = J + 10 := ⟨N - 10, by omega⟩
  obtain ⟨pre, c, body, hfl⟩ : ∃ pre c body,
      findLoop Code.fn_chrony_poller__run_clock_error_bound_poller_stmts = some (pre, c, body) := by
    simp only [rs_eval, rs_base, rs_code]
  have L := hL pre c body hfl
  simp only [rs_eval, rs_base, rs_code] at hfl
  obtain ⟨rfl, rfl, rfl⟩ := hfl
  simp only [ctxP_eq, topP, pollerArgs, contextValue, pollerValue_eq] at L ⊢
  simp -implicitDefEqProofs only [rs_eval, rs_base, rs_code] at L
  simp -implicitDefEqProofs only [rs_eval, rs_base, rs_code]
  generalize hW : evalWhile _ _ _ _ _ _ = W
  have h : LoopIs W log pos n o := by
    rw [← hW]
    exact L _ (by omega)
  cases o with
  | none =>
    subst h
    simp -implicitDefEqProofs only [rs_eval, rs_base, rs_code]
  | some p =>
    obtain ⟨st, rfl, h1, h2, h3⟩ := h
    simp -implicitDefEqProofs only [rs_eval, rs_base, rs_code, h1, h2, h3]

/-- .. and run by name on `pollerArgs`, from the empty state -/
theorem loop_fn_run (nowNs : Int) (inp : Nat → Value) (refid : Option Nat) (e0 : IterEnv) (s : PollerState)
    (n d : Nat) (o : Option (PollerState × List Value))
    (hL : ∀ pre c body, findLoop Code.fn_chrony_poller__run_clock_error_bound_poller_stmts = some (pre, c, body) →
      ∀ M, d ≤ M →
        LoopIs (evalWhile M (ctxP nowNs [] inp) frP c body (topP nowNs inp pre e0 s refid [] 0)) [] 0 n o)
    (F : Nat) (hF : d + 10 ≤ F) :
    runFuel F (ctxP nowNs [] inp) "chrony_poller::run_clock_error_bound_poller" .unit (pollerArgs e0 s refid)
    = match (generalizing := false) o with
      | none => .panic
      | some (_, l) => .ok .unit .unit l := by
  have hd : Code.fns.lookup "chrony_poller::run_clock_error_bound_poller"
      = some Code.fn_chrony_poller__run_clock_error_bound_poller := by
    simp only [rs_eval, rs_base, rs_code]
  simp only [ctxP_eq, runFuel, pctx_fns, hd, loop_fn_call nowNs inp refid e0 s [] [] 0 n d o hL F hF]
  cases o with
  | none => rfl
  | some p => simp [Res.outcome]

@[rs_eval] theorem ascribe_contextValue (ty chan : String) : ascribe ty (contextValue chan) = some (contextValue chan) :=
  rfl

end ClockBound.Rs.PollerProof

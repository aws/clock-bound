/-
  Bridging lemmas between the interpreter's dictionary and the model primitives.
-/
import ClockBound.Proofs.RsEval
import ClockBound.Proofs.F64
import ClockBound.Rs.Embed
namespace ClockBound.Rs
open ClockBound

/-! `rs_base`, continued: casts `ℕ → ℤ` of embedded unsigned values, comparisons with literals, truncated subtraction -/
attribute [rs_base]
  IsEmpty.forall_iff Left.neg_nonpos_iff Nat.cast_add Nat.cast_inj Nat.cast_ite Nat.cast_le Nat.cast_le_ofNat
  Nat.cast_lt Nat.cast_lt_ofNat Nat.cast_nonneg Nat.cast_ofNat Nat.cast_one Nat.cast_zero Nat.ofNat_le_cast
  Nat.ofNat_lt_cast Nat.ofNat_nonneg Nat.ofNat_pos Nat.one_le_ofNat Nat.one_lt_ofNat OfNat.ofNat_eq_ofNat
  OfNat.ofNat_ne_zero add_sub_cancel_right add_tsub_cancel_left add_tsub_cancel_right add_zero
  le_add_iff_nonneg_left lt_self_iff_false mul_nonneg_iff_of_pos_right neg_le_neg_iff neg_le_sub_iff_le_add neg_mul
  nonpos_iff_eq_zero not_le not_lt one_ne_zero sub_neg sub_neg_eq_add sub_zero tsub_self zero_add zero_le
  zero_lt_one zero_ne_one
attribute [rs_base_proc ↓] existsAndEq

/-- an integer-valued float literal below 2^53 denotes exactly that integer -/
theorem f64OfDecimal_nat (m : Nat) (h : m ≤ 9007199254740992) : f64OfDecimal m 0 = (m : ℚ) := by
  unfold f64OfDecimal
  simpa using F64.rne53_natCast m (by norm_num; exact h)

attribute [rs_eval] f64OfDecimal_nat

example : f64OfDecimal 1000000000 0 = 1000000000 := by simp only [rs_eval, rs_base, rs_code]
example : f64OfDecimal 2 0 = 2 := by simp only [rs_eval, rs_base, rs_code]
example : ¬ (f64OfDecimal 8 0 = 0) := by simp only [rs_eval, rs_base, rs_code]

/-- `f64 as u64` is never negative (`Duration::from_secs` takes a u64) -/
@[rs_eval] theorem castU64_nonneg (a : ℚ) : 0 ≤ F64.castU64 a := by
  rw [F64.castU64_eq]
  split_ifs <;> omega

/-- comparisons of an embedded `u16`/`u32` (a `Nat` in the model) with a literal, back in `Nat` -/
@[rs_eval] theorem natCast_eq_ofNat (a n : Nat) [n.AtLeastTwo] :
    ((a : Int) = (no_index (OfNat.ofNat n) : Int)) ↔ a = (OfNat.ofNat n : Nat) := by
  have : (OfNat.ofNat n : Int) = ((OfNat.ofNat n : Nat) : Int) := by simp
  rw [this]
  exact Int.ofNat_inj

/-! ### the generation word of the seqlock, where the interpreter computes it: over the integers, with bit operations -/

/-- the model's `genStart`, over the integers -/
theorem genStart_int (g : Nat) :
    ((genStart g : Nat) : Int) = if (g : Int) % 2 = 0 then ((g : Int) + 1) % 65536 else (g : Int) := by
  unfold genStart
  split <;> split <;> omega

/-- the model's `genFinish`, over the integers -/
theorem genFinish_int (s : Nat) :
    ((genFinish s : Nat) : Int) = if ((s : Int) + 1) % 65536 = 0 then 2 else ((s : Int) + 1) % 65536 := by
  unfold genFinish
  simp only
  split <;> split <;> omega

/-- setting the lowest bit: the next odd number unless the number is odd already (`gen | 0x0001`) -/
theorem lor_one (g : Nat) : g ||| 1 = if g % 2 = 0 then g + 1 else g := by
  have h1 : (g ||| 1) / 2 = g / 2 := by rw [Nat.or_div_two]; simp
  have h2 : (g ||| 1) % 2 = 1 := by rw [Nat.or_mod_two_eq_one]; simp
  split <;> omega

/-- clearing all bits but the lowest (`gen & 0x0001`) -/
theorem land_one (g : Nat) : g &&& 1 = g % 2 := Nat.and_one_is_mod g

end ClockBound.Rs

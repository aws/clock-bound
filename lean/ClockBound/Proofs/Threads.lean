/-
  C15 — proofs about the thread-web model (ClockBound/Model/Threads.lean): the transition relation `Step`,
  reachability invariants, the progress measure `mu`, productive threads, rounds, the log acceptor.
-/
import ClockBound.Model.Threads
namespace ClockBound.Threads
variable {s s' : State} {a : Action} {t : Thread} {acts : List Action}

/-- states reachable from the initial state by arbitrary schedules (faults included) -/
inductive Reachable : State → Prop
  | init : Reachable init
  | step {s s' : State} {a : Action} : Reachable s → step s a = some s' → Reachable s'

/-! ### the transitions -/

/-- `step` as a relation: one constructor per program point and outcome -/
inductive Step (s : State) : Action → State → Prop
  | recv {x rest} : s.m = .loop → s.qM = x :: rest → x.isNotice = false →
      Step s .main { s with m := .loop, qM := rest }
  | recvNotice {x rest} : s.m = .loop → s.qM = x :: rest → x.isNotice = true →
      Step s .main { s with m := .bcast0, qM := rest }
  | abortP₁ : s.m = .bcast0 → Step s (.mainAbort .poller) { s with m := .bcastP, qP := sendTo s.rxP s.qP .abort }
  | abortW₁ : s.m = .bcast0 → Step s (.mainAbort .writer) { s with m := .bcastW, qW := sendTo s.rxW s.qW .abort }
  | abortW₂ : s.m = .bcastP → Step s .main { s with m := .joinP, qW := sendTo s.rxW s.qW .abort }
  | abortP₂ : s.m = .bcastW → Step s .main { s with m := .joinP, qP := sendTo s.rxP s.qP .abort }
  | joinP : s.m = .joinP → s.p = .done → Step s .main { s with m := .joinW }
  | joinW : s.m = .joinW → s.w = .done → Step s .main { s with m := .returned, qM := [] }
  | pStart : s.p = .start → Step s .poller { s with p := .top }
  | pClock : s.p = .top → Step s .poller { s with p := .query }
  | pClockFail : s.p = .top → Step s .pollerClockFail { s with p := .wait }
  | pQuery : s.p = .query → Step s .poller { s with p := .send }
  | pSend : s.p = .send → s.rxW = true → Step s .poller { s with p := .wait, qW := s.qW ++ [.data] }
  | pSendFail : s.p = .send → s.rxW = false → Step s .poller { s with p := .exiting .panic }
  | pRecv {x rest} : s.p = .wait → s.qP = x :: rest → x ≠ .abort →
      Step s .poller { s with p := .top, qP := rest }
  | pAbort {rest} : s.p = .wait → s.qP = .abort :: rest →
      Step s .poller { s with p := .exiting .terminate, qP := rest }
  | pTimeout : s.p = .wait → s.qP = [] → Step s .pollerTimeout { s with p := .top }
  | pDie {k} : s.p.alive = true → Step s (.pollerDie k) { s with p := .exiting k }
  | pNotify {k} : s.p = .exiting k →
      Step s .poller { s with p := .dropping, qM := sendTo s.m.rxAlive s.qM (.notice .poller k) }
  | pDrop : s.p = .dropping → Step s .poller { s with p := .done, rxP := false, qP := [] }
  | wOpen : s.w = .start → Step s .writer { s with w := .opened }
  | wInit : s.w = .opened → Step s .writer { s with w := .recv }
  | wRecv {x rest} : s.w = .recv → s.qW = x :: rest → x ≠ .abort →
      Step s .writer { s with w := .recv, qW := rest }
  | wAbort {rest} : s.w = .recv → s.qW = .abort :: rest →
      Step s .writer { s with w := .exiting .terminate, qW := rest }
  | wDie {k} : s.w.alive = true → Step s (.writerDie k) { s with w := .exiting k }
  | wNotify {k} : s.w = .exiting k →
      Step s .writer { s with w := .dropping, qM := sendTo s.m.rxAlive s.qM (.notice .writer k) }
  | wDrop : s.w = .dropping → Step s .writer { s with w := .done, rxW := false, qW := [] }

-- the unfolding form of `step_iff`: one goal per way `step s a` can be `some s'`, with `s'` substituted
macro "step_cases" hs:ident : tactic => `(tactic| (
  simp only [step, stepMain, stepPoller, stepWriter] at $hs:ident
  repeat' split at $hs:ident
  all_goals simp only [Option.some.injEq, reduceCtorEq] at $hs:ident
  all_goals subst $hs:ident))

theorem step_iff : step s a = some s' ↔ Step s a s' := by
  refine ⟨fun h => ?_, fun h => by cases h <;> simp_all [step, stepMain, stepPoller, stepWriter]⟩
  cases a
  case mainAbort w => cases w <;> step_cases h <;> constructor <;> assumption
  all_goals step_cases h
  all_goals constructor
  all_goals first | assumption | simp_all

theorem sendTo_eq (b : Bool) (q : List Msg) (x : Msg) : sendTo b q x = q ++ if b then [x] else [] := by
  cases b <;> simp [sendTo]

theorem mem_sendTo {b : Bool} {q : List Msg} {x y : Msg} : y ∈ sendTo b q x ↔ y ∈ q ∨ (b = true ∧ y = x) := by
  cases b <;> simp [sendTo]

/-- a thread's program counter is moved only by its own steps, and its mailbox only grows under the others' -/
theorem Step.frame (hs : Step s a s') :
    (a.thread ≠ .main → s'.m = s.m ∧ ∃ l, s'.qM = s.qM ++ l) ∧
    (a.thread ≠ .poller → s'.p = s.p ∧ ∃ l, s'.qP = s.qP ++ l) ∧
    (a.thread ≠ .writer → s'.w = s.w ∧ ∃ l, s'.qW = s.qW ++ l) := by
  cases hs <;> simp [Action.thread, sendTo_eq]

theorem PollerPc.ne_done_of_alive {p : PollerPc} (h : p.alive = true) : p ≠ .done := by rintro rfl; cases h
theorem WriterPc.ne_done_of_alive {w : WriterPc} (h : w.alive = true) : w ≠ .done := by rintro rfl; cases h
theorem PollerPc.ended_exiting (k : Kind) : (PollerPc.exiting k).ended = true := rfl
theorem WriterPc.ended_exiting (k : Kind) : (WriterPc.exiting k).ended = true := rfl

/-- `done` is final -/
theorem Step.done_stable (hs : Step s a s') :
    (s.p = .done → s'.p = .done) ∧ (s.w = .done → s'.w = .done) := by
  cases hs
  case pDie h => simp [PollerPc.ne_done_of_alive h]
  case wDie h => simp [WriterPc.ne_done_of_alive h]
  all_goals simp_all

/-! ### invariants -/

/-- main has already sent Abort to the poller's / writer's channel -/
def MainPc.sentP : MainPc → Bool
  | .bcastP | .joinP | .joinW | .returned => true
  | _ => false
def MainPc.sentW : MainPc → Bool
  | .bcastW | .joinP | .joinW | .returned => true
  | _ => false

/-- the inductive invariant of all reachable states:
    * only main's Abort ever reaches the poller's mailbox;
    * a receiver flag is down exactly when the worker is `done`;
    * a worker past its Drop has its notice in main's queue unless main already left its loop;
    * once main has sent Abort to a worker, the Abort is in that worker's queue or the worker has ended;
    * main joins the writer only after the poller is done, returns only after both are -/
structure Inv (s : State) : Prop where
  qP_abort : ∀ x ∈ s.qP, x = Msg.abort
  rxP_iff : s.rxP = false ↔ s.p = .done
  rxW_iff : s.rxW = false ↔ s.w = .done
  noticeP : s.p = .dropping ∨ s.p = .done → (∃ k, Msg.notice .poller k ∈ s.qM) ∨ s.m ≠ .loop
  noticeW : s.w = .dropping ∨ s.w = .done → (∃ k, Msg.notice .writer k ∈ s.qM) ∨ s.m ≠ .loop
  abortP : s.m.sentP = true → Msg.abort ∈ s.qP ∨ s.p.ended = true
  abortW : s.m.sentW = true → Msg.abort ∈ s.qW ∨ s.w.ended = true
  joinedP : s.m = .joinW ∨ s.m = .returned → s.p = .done
  joinedW : s.m = .returned → s.w = .done

theorem inv_init : Inv init := by
  constructor <;> simp [init, MainPc.sentP, MainPc.sentW]

/-! The invariant is preserved field by field. In each proof the steps named are the ones that matter: the
field's premise becomes true, or the message it speaks of could leave the queue. -/

theorem Step.qP_abort (hs : Step s a s') (h : ∀ x ∈ s.qP, x = Msg.abort) :
    ∀ x ∈ s'.qP, x = Msg.abort := by
  cases hs
  case abortP₁ | abortP₂ => simpa [mem_sendTo, or_imp] using h
  case pRecv hq _ | pAbort hq => exact fun x hx => h x (hq ▸ List.mem_cons_of_mem _ hx)
  case pDrop => nofun
  all_goals exact h

theorem Step.rx_joined (hs : Step s a s') (h : Inv s) :
    (s'.rxP = false ↔ s'.p = .done) ∧ (s'.rxW = false ↔ s'.w = .done) ∧
      (s'.m = .joinW ∨ s'.m = .returned → s'.p = .done) ∧ (s'.m = .returned → s'.w = .done) := by
  have hP := h.rxP_iff
  have hW := h.rxW_iff
  have hjP := h.joinedP
  have hjW := h.joinedW
  cases hs
  case pDie ha => have := PollerPc.ne_done_of_alive ha; simp_all
  case wDie ha => have := WriterPc.ne_done_of_alive ha; simp_all
  all_goals simp_all

/-- main removes a notice from its queue only by leaving its loop -/
theorem Step.notice_stays (hs : Step s a s') {w : Worker}
    (h : (∃ k, Msg.notice w k ∈ s.qM) ∨ s.m ≠ .loop) :
    (∃ k, Msg.notice w k ∈ s'.qM) ∨ s'.m ≠ .loop := by
  cases hs
  case recv hm hq hx =>
    obtain ⟨k, hk⟩ | hne := h
    · rcases List.mem_cons.1 (hq ▸ hk) with rfl | hk
      · cases hx
      · exact .inl ⟨k, hk⟩
    · exact absurd hm hne
  case pNotify | wNotify => exact h.imp_left fun ⟨k, hk⟩ => ⟨k, mem_sendTo.2 (.inl hk)⟩
  all_goals simp_all

/-- a worker gets past its Drop only by the step that sends its notice (in vain only if main has returned) -/
theorem Step.dropped_p (hs : Step s a s') (h : s'.p = .dropping ∨ s'.p = .done) :
    (s.p = .dropping ∨ s.p = .done) ∨ (∃ k, Msg.notice .poller k ∈ s'.qM) ∨ s'.m ≠ .loop := by
  cases hs
  case pNotify k _ => cases hm : s.m <;> simp [mem_sendTo, MainPc.rxAlive]
  all_goals simp_all

theorem Step.dropped_w (hs : Step s a s') (h : s'.w = .dropping ∨ s'.w = .done) :
    (s.w = .dropping ∨ s.w = .done) ∨ (∃ k, Msg.notice .writer k ∈ s'.qM) ∨ s'.m ≠ .loop := by
  cases hs
  case wNotify k _ => cases hm : s.m <;> simp [mem_sendTo, MainPc.rxAlive]
  all_goals simp_all

theorem Step.abortP (hs : Step s a s') (h : Inv s) :
    s'.m.sentP = true → Msg.abort ∈ s'.qP ∨ s'.p.ended = true := by
  have hrx := h.rxP_iff
  have h := h.abortP
  cases hs
  case abortP₁ | abortP₂ => cases hr : s.rxP <;> simp_all +decide [mem_sendTo]
  case pRecv hx => simp_all +decide [Ne.symm hx]
  all_goals simp_all +decide [PollerPc.ended_exiting]

theorem Step.abortW (hs : Step s a s') (h : Inv s) :
    s'.m.sentW = true → Msg.abort ∈ s'.qW ∨ s'.w.ended = true := by
  have hrx := h.rxW_iff
  have h := h.abortW
  cases hs
  case abortW₁ | abortW₂ => cases hr : s.rxW <;> simp_all +decide [mem_sendTo]
  case wRecv hx => simp_all [Ne.symm hx]
  all_goals simp_all +decide [WriterPc.ended_exiting]

theorem inv_step (h : Inv s) (hs : step s a = some s') : Inv s' :=
  have hs := step_iff.1 hs
  have ⟨h2, h3, h8, h9⟩ := hs.rx_joined h
  { qP_abort := hs.qP_abort h.qP_abort, rxP_iff := h2, rxW_iff := h3
    noticeP := fun hp => (hs.dropped_p hp).elim (fun hp => hs.notice_stays (h.noticeP hp)) id
    noticeW := fun hw => (hs.dropped_w hw).elim (fun hw => hs.notice_stays (h.noticeW hw)) id
    abortP := hs.abortP h
    abortW := hs.abortW h
    joinedP := h8, joinedW := h9 }

theorem reachable_inv (h : Reachable s) : Inv s := by
  induction h with
  | init => exact inv_init
  | step _ hs ih => exact inv_step ih hs

/-! ### measure

`mu = rankM + rankP + rankW`. Main's rank counts its remaining phases (weight 2 per Abort it still has
to send, because each Abort lengthens a queue) plus the length of its queue while it is still
receiving; a worker's rank counts its remaining steps to `done` (3 for `exiting` because the notice
lengthens main's queue); a live writer additionally has to read its whole queue; a live poller that
has no Abort queued yet is given the constant 10: it may go round its loop any number of times, and
what ends this is main's progress, not its own. -/
def rankM (s : State) : Nat :=
  match s.m with
  | .returned => 0 | .joinW => 1 | .joinP => 2 | .bcastP => 4 | .bcastW => 4 | .bcast0 => 6
  | .loop => 8 + s.qM.length

def rankP (s : State) : Nat :=
  match s.p with
  | .done => 0 | .dropping => 1 | .exiting _ => 3
  | .wait => if Msg.abort ∈ s.qP then 4 else 10
  | .send => if Msg.abort ∈ s.qP then 6 else 10
  | .query => if Msg.abort ∈ s.qP then 7 else 10
  | .top => if Msg.abort ∈ s.qP then 8 else 10
  | .start => if Msg.abort ∈ s.qP then 9 else 10

def rankW (s : State) : Nat :=
  match s.w with
  | .done => 0 | .dropping => 1 | .exiting _ => 3
  | .recv => 4 + s.qW.length | .opened => 5 + s.qW.length | .start => 6 + s.qW.length

def mu (s : State) : Nat := rankM s + rankP s + rankW s

/-- some worker has left its loop for good (pc `exiting`, `dropping` or `done`) -/
def Ended (s : State) : Prop := s.p.ended = true ∨ s.w.ended = true

/-- the poller is productive: it is dropping its Context, or Abort is waiting in its mailbox -/
def prodP (s : State) : Bool :=
  match s.p with
  | .done => false
  | .exiting _ | .dropping => true
  | _ => decide (Msg.abort ∈ s.qP)

def enabledMain (s : State) : Bool :=
  match s.m with
  | .loop => !s.qM.isEmpty
  | .bcast0 | .bcastP | .bcastW => true
  | .joinP => decide (s.p = .done)
  | .joinW => decide (s.w = .done)
  | .returned => false

def enabledWriter (s : State) : Bool :=
  match s.w with
  | .start | .opened | .exiting _ | .dropping => true
  | .recv => !s.qW.isEmpty
  | .done => false

/-- a *productive* thread: it has an enabled ordinary step and every step it can take strictly decreases
    `mu`. Main and the writer are productive whenever they are enabled; the poller only once its
    exit is under way (Abort queued, or already dropping). -/
def productive (s : State) : Thread → Bool
  | .main => enabledMain s
  | .poller => prodP s
  | .writer => enabledWriter s

/-! A rank looks at its thread's program counter and mailbox only; a message more in the mailbox costs at most 1
(nothing for an ended writer, and an Abort for the poller can only help). -/

theorem rankM_le (h : s'.m = s.m) : rankM s' ≤ rankM s + (s'.qM.length - s.qM.length) := by
  cases hm : s.m <;> simp [rankM, h, hm] <;> omega

theorem rankP_le (h : s'.p = s.p) (hq : ∃ l, s'.qP = s.qP ++ l) : rankP s' ≤ rankP s := by
  obtain ⟨l, hl⟩ := hq
  cases hp : s.p <;> simp [rankP, h, hp, hl] <;> grind

theorem rankW_le (h : s'.w = s.w) :
    rankW s' ≤ rankW s + if s.w.alive then s'.qW.length - s.qW.length else 0 := by
  cases hw : s.w <;> simp [rankW, h, hw, WriterPc.alive] <;> omega

theorem rankP_alive (h : s.p.alive = true) : 4 ≤ rankP s := by
  cases hp : s.p <;> simp_all [rankP, PollerPc.alive] <;> split <;> omega

theorem rankW_alive (h : s.w.alive = true) : 4 ≤ rankW s := by
  cases hw : s.w <;> simp_all [rankW, WriterPc.alive] <;> omega

/-- what a step costs the thread that takes it: its own rank falls by more than the number of messages it adds to
    the mailboxes of main and of a live writer (for the poller: by at least that number, by more if it is
    productive). Only here is it used that after a death a poller still alive means the writer has ended (`pSend`),
    and that the poller's mailbox holds nothing but Abort (`pRecv`). -/
theorem Step.rank_lt (hs : Step s a s') (hq : ∀ x ∈ s.qP, x = Msg.abort) (he : Ended s) :
    match a.thread with
    | .main => rankM s' + (if s.w.alive then s'.qW.length - s.qW.length else 0) < rankM s
    | .writer => rankW s' + (s'.qM.length - s.qM.length) < rankW s
    | .poller =>
      let cost := rankP s' + (s'.qM.length - s.qM.length) + if s.w.alive then s'.qW.length - s.qW.length else 0
      cost ≤ rankP s ∧ (prodP s = true → cost < rankP s) := by
  cases hs <;> simp only [Action.thread]
  case pRecv hq' hx => exact absurd (hq _ (hq' ▸ List.mem_cons_self ..)) hx
  case pDie ha => have := rankP_alive ha; simp_all [rankP]; omega
  case wDie ha => have := rankW_alive ha; simp_all [rankW]; omega
  case pSend hp _ =>
    have : s.w.alive = false := by simpa [Ended, PollerPc.ended, PollerPc.alive, WriterPc.ended, hp] using he
    simp [rankP, prodP, *]; grind
  all_goals simp [rankM, rankP, rankW, prodP, sendTo, *]
  all_goals grind

theorem mu_step (h : Inv s) (he : Ended s) (hs : step s a = some s') :
    mu s' ≤ mu s ∧ (productive s a.thread = true → mu s' < mu s) := by
  have hs := step_iff.1 hs
  have own := hs.rank_lt h.qP_abort he
  obtain ⟨fm, fp, fw⟩ := hs.frame
  have hM := fun h => rankM_le (fm h).1
  have hP := fun h => rankP_le (fp h).1 (fp h).2
  have hW := fun h => rankW_le (fw h).1
  unfold mu
  cases ht : a.thread <;> simp [ht, productive] at own hM hP hW ⊢
  case poller => exact ⟨by omega, fun hp => by have := own.2 hp; omega⟩
  all_goals omega

theorem ended_step (he : Ended s) (hs : step s a = some s') : Ended s' := by
  cases step_iff.1 hs <;> simp_all +decide [Ended, PollerPc.ended_exiting, WriterPc.ended_exiting]

theorem returned_step (hm : s.m = .returned) (hs : step s a = some s') : s'.m = .returned := by
  cases step_iff.1 hs <;> simp_all

/-! ### productive threads -/

/-- thread `t` has an enabled ordinary (non-fault) step -/
def Enabled (s : State) (t : Thread) : Prop :=
  ∃ a, a.thread = t ∧ a.isDie = false ∧ (step s a).isSome = true

theorem productive_enabled (h : productive s t = true) : Enabled s t := by
  cases t
  case main =>
    by_cases h0 : s.m = .bcast0
    · exact ⟨.mainAbort .poller, rfl, rfl, by simp [step, h0]⟩
    · refine ⟨.main, rfl, rfl, ?_⟩
      cases hm : s.m <;> cases hq : s.qM <;> simp_all [productive, enabledMain, step, stepMain]
  case poller =>
    refine ⟨.poller, rfl, rfl, ?_⟩
    cases hp : s.p <;> cases hq : s.qP <;> simp_all [productive, prodP, step, stepPoller]
    split <;> rfl
  case writer =>
    refine ⟨.writer, rfl, rfl, ?_⟩
    cases hw : s.w <;> cases hq : s.qW <;> simp_all [productive, enabledWriter, step, stepWriter]

theorem prodP_of (hd : s.p ≠ .done) (h : Msg.abort ∈ s.qP ∨ s.p.ended = true) : prodP s = true := by
  cases hp : s.p <;> simp_all [prodP, PollerPc.ended, PollerPc.alive]

theorem enabledWriter_of (hd : s.w ≠ .done) (h : Msg.abort ∈ s.qW ∨ s.w.ended = true) :
    enabledWriter s = true := by
  cases hw : s.w <;> cases hq : s.qW <;> simp_all [enabledWriter, WriterPc.ended, WriterPc.alive]

theorem exists_productive (h : Inv s) (he : Ended s) (hm : s.m ≠ .returned) :
    ∃ t, productive s t = true := by
  by_cases hen : enabledMain s = true
  · exact ⟨.main, hen⟩
  -- main is blocked, in `recv` or in a join: the thread it waits for is productive
  cases hm' : s.m <;> simp [enabledMain, hm'] at hen hm
  case loop =>
    -- no notice is queued, so neither worker is past its Drop: the one that has ended is about to send it
    have hP := h.noticeP
    have hW := h.noticeW
    simp [hen, hm'] at hP hW
    exact he.elim (fun he => ⟨.poller, prodP_of hP.2 (.inr he)⟩)
      fun he => ⟨.writer, enabledWriter_of hW.2 (.inr he)⟩
  case joinP => exact ⟨.poller, prodP_of hen (h.abortP (by simp [hm', MainPc.sentP]))⟩
  case joinW => exact ⟨.writer, enabledWriter_of hen (h.abortW (by simp [hm', MainPc.sentW]))⟩

theorem productive_persist (hp : productive s t = true)
    (hs : step s a = some s') (hne : a.thread ≠ t) : productive s' t = true := by
  have hs := step_iff.1 hs
  cases t
  case main =>
    obtain ⟨hm, l, hq⟩ := hs.frame.1 hne
    have := hs.done_stable
    simp only [productive, enabledMain, hm, hq] at hp ⊢
    split at hp <;> simp_all
  case poller =>
    obtain ⟨hp', l, hq⟩ := hs.frame.2.1 hne
    simp only [productive, prodP, hp', hq] at hp ⊢
    split at hp <;> simp_all
  case writer =>
    obtain ⟨hw, l, hq⟩ := hs.frame.2.2 hne
    simp only [productive, enabledWriter, hw, hq] at hp ⊢
    split at hp <;> simp_all

/-! ### schedules and rounds -/

theorem run_preserves {P : State → Prop} (hP : ∀ {s s' a}, P s → step s a = some s' → P s') (h : P s)
    (hr : run s acts = some s') : P s' := by
  fun_induction run s acts
  · cases hr
    exact h
  · next hs ih => exact ih (hP h hs) hr
  · cases hr

theorem run_reachable (h : Reachable s) (hr : run s acts = some s') : Reachable s' :=
  run_preserves Reachable.step h hr

/-- along the schedule `acts` from `s`, thread `t` takes a step, or is at some point (possibly at the
    very end) not enabled: `t` is not continuously enabled without being scheduled -/
def Served (t : Thread) : State → List Action → Prop
  | s, [] => ¬ Enabled s t
  | s, a :: rest => ¬ Enabled s t ∨ a.thread = t ∨ ∃ s', step s a = some s' ∧ Served t s' rest

/-- a round: a finite schedule segment that serves every thread -/
def Round (s : State) (acts : List Action) (s' : State) : Prop :=
  run s acts = some s' ∧ ∀ t, Served t s acts

/-- the fairness argument: no step raises `mu`; a productive thread is enabled and stays productive while the others
    move, so a schedule that serves it contains one of its steps, and that step lowers `mu` -/
theorem run_mu (h : Inv s) (he : Ended s) (hr : run s acts = some s') :
    mu s' ≤ mu s ∧ (productive s t = true → Served t s acts → mu s' < mu s) := by
  fun_induction run s acts
  · cases hr
    exact ⟨Nat.le_refl _, fun hp hsv => absurd (productive_enabled hp) hsv⟩
  · next s a rest s1 h1 ih =>
    have ⟨hle, hlt⟩ := ih (inv_step h h1) (ended_step he h1) hr
    have hstep := mu_step h he h1
    refine ⟨by omega, fun hp hsv => ?_⟩
    by_cases hat : a.thread = t
    · have := hstep.2 (hat ▸ hp)
      omega
    · obtain hsv | hsv | ⟨s2, hs2, hsv⟩ := hsv
      · exact absurd (productive_enabled hp) hsv
      · exact absurd hsv hat
      · cases h1.symm.trans hs2
        have := hlt (productive_persist hp h1 hat) hsv
        omega
  · cases hr

theorem round_decreases (h : Inv s) (he : Ended s) (hm : s.m ≠ .returned) (hr : Round s acts s') :
    mu s' < mu s := by
  obtain ⟨t, ht⟩ := exists_productive h he hm
  exact (run_mu h he hr.1).2 ht (hr.2 t)

/-- `n` consecutive rounds -/
inductive Rounds : Nat → State → State → Prop
  | nil (s : State) : Rounds 0 s s
  | cons {n : Nat} {s s1 s2 : State} {acts : List Action} : Round s acts s1 → Rounds n s1 s2 → Rounds (n + 1) s s2

theorem rounds_preserves {P : State → Prop} (hP : ∀ {s s' a}, P s → step s a = some s' → P s') {n : Nat}
    {s s' : State} (hr : Rounds n s s') : P s → P s' := by
  induction hr with
  | nil s => exact id
  | cons hround _ ih => exact fun h => ih (run_preserves hP h hround.1)

theorem mu_zero (h : mu s = 0) : s.m = .returned := by
  have : rankM s = 0 := by unfold mu at h; omega
  cases hm : s.m <;> simp [rankM, hm] at this ⊢

theorem rounds_exit {n : Nat} (hr : Rounds n s s') : Inv s → Ended s → mu s ≤ n → s'.m = .returned := by
  induction hr with
  | nil s => exact fun _ _ hn => mu_zero (by omega)
  | @cons n s s1 s2 acts hround hrest ih =>
    intro h he hn
    by_cases hm : s.m = .returned
    · exact rounds_preserves returned_step hrest (run_preserves returned_step hm hround.1)
    · have := round_decreases h he hm hround
      exact ih (run_preserves inv_step h hround.1) (run_preserves ended_step he hround.1) (by omega)

/-! ### executable `enabled`, explicit bound, simple rounds -/

theorem mem_allActions (a : Action) : a ∈ allActions := by
  rcases a with _ | (_ | _) | _ | _ | _ | (_ | _) | _ | (_ | _) <;> decide

theorem enabled_iff : enabled s t = true ↔ Enabled s t := by
  simp [enabled, Enabled, mem_allActions, and_assoc]

theorem mu_le_bound (s : State) : mu s ≤ 24 + s.qM.length + s.qW.length := by
  have : rankM s ≤ 8 + s.qM.length := by unfold rankM; split <;> omega
  have : rankP s ≤ 10 := by
    unfold rankP
    repeat' split
    all_goals omega
  have : rankW s ≤ 6 + s.qW.length := by unfold rankW; split <;> omega
  unfold mu
  omega

/-- the simple reading of a round: every thread that has an enabled step at the START of the segment
    takes at least one step in it -/
def Round₀ (s : State) (acts : List Action) (s' : State) : Prop :=
  run s acts = some s' ∧ ∀ t, Enabled s t → ∃ a ∈ acts, a.thread = t

theorem served_of_scheduled (hr : run s acts = some s') (h : ∃ a ∈ acts, a.thread = t) : Served t s acts := by
  fun_induction run s acts
  · simp at h
  · next s a rest s1 h1 ih =>
    simp only [List.mem_cons, exists_eq_or_imp] at h
    exact .inr (h.imp_right fun h => ⟨s1, h1, ih hr h⟩)
  · cases hr

theorem round_of_round₀ (h : Round₀ s acts s') : Round s acts s' := by
  refine ⟨h.1, fun t => ?_⟩
  by_cases he : Enabled s t
  · exact served_of_scheduled h.1 (h.2 t he)
  · cases acts
    · exact he
    · exact .inl he

/-- `n` consecutive rounds in the simple reading -/
inductive Rounds₀ : Nat → State → State → Prop
  | nil (s : State) : Rounds₀ 0 s s
  | cons {n : Nat} {s s1 s2 : State} {acts : List Action} : Round₀ s acts s1 → Rounds₀ n s1 s2 → Rounds₀ (n + 1) s s2

theorem rounds_of_rounds₀ {n : Nat} (h : Rounds₀ n s s') : Rounds n s s' := by
  induction h with
  | nil s => exact Rounds.nil s
  | cons hr _ ih => exact Rounds.cons (round_of_round₀ hr) ih

/-! ### soundness of the log acceptor -/

def AllR (l : List Cfg) : Prop := ∀ c ∈ l, Reachable c.s

theorem reachable_map_step {c c' : Cfg} {a : Action} {f : State → Cfg} (hf : ∀ s', (f s').s = s')
    (hc : Reachable c.s) (h : (step c.s a).map f = some c') : Reachable c'.s := by
  obtain ⟨s', hs, rfl⟩ := Option.map_eq_some_iff.1 h
  rw [hf]
  exact hc.step hs

theorem allR_hiddenSucc {c : Cfg} (hc : Reachable c.s) : AllR (hiddenSucc c) := by
  intro c' h
  simp only [hiddenSucc, List.mem_append, List.mem_filterMap] at h
  obtain (⟨a, -, h⟩ | ⟨a, -, h⟩) | ⟨a, -, h⟩ := h <;> exact reachable_map_step (fun _ => rfl) hc h

theorem allR_insertNew (xs acc : List Cfg) (ha : AllR acc) (hx : AllR xs) :
    AllR (insertNew acc xs).1 ∧ AllR (insertNew acc xs).2 := by
  fun_induction insertNew acc xs <;> grind [AllR]

theorem allR_closure (fuel : Nat) (seen frontier : List Cfg) (hs : AllR seen) (hf : AllR frontier) :
    AllR (closure fuel seen frontier) := by
  fun_induction closure fuel seen frontier
  · exact hs
  · exact hs
  · next h ih =>
    have := allR_insertNew _ _ hs fun c hc => by
      obtain ⟨c0, h0, h1⟩ := List.mem_flatMap.1 hc
      exact allR_hiddenSucc (hf c0 h0) c h1
    rw [h] at this
    exact ih this.1 this.2

theorem allR_close {cs : List Cfg} (h : AllR cs) : AllR (close cs) := by
  have := allR_insertNew cs [] (fun _ h => nomatch h) h
  exact allR_closure _ _ _ this.1 this.2

theorem reachable_applyEvent {e : Event} {c c' : Cfg} (hc : Reachable c.s) (h : applyEvent e c = some c') :
    Reachable c'.s := by
  cases e <;> simp only [applyEvent] at h <;> split at h
  case visitP.isTrue | visitW.isTrue => cases h; exact hc
  case faultP.isTrue | faultW.isTrue | crashP.isTrue | crashW.isTrue | returned.isTrue =>
    exact reachable_map_step (fun _ => rfl) hc h
  all_goals cases h

theorem allR_replayFrom {cs out : List Cfg} {i : Nat} {log : List Event} (h : AllR cs)
    (hr : replayFrom cs i log = .ok out) : AllR out := by
  fun_induction replayFrom cs i log
  · cases hr
    exact allR_close h
  · cases hr
  · next ih =>
    refine ih (fun c' hc' => ?_) hr
    obtain ⟨c, hc, hap⟩ := List.mem_filterMap.1 hc'
    exact reachable_applyEvent (allR_close h c hc) hap

/-- soundness of the acceptor: every configuration compatible with an accepted log is a reachable
    state of the model -/
theorem replay_reachable {log : List Event} {cs : List Cfg} (h : replay log = .ok cs) : AllR cs :=
  allR_replayFrom (by simpa [AllR, Cfg.init] using Reachable.init) h

end ClockBound.Threads

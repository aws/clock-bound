/-
  Helpers for `Properties/OnCodeWriterNew.lean`: the effect of the operations of `ShmWriter::new` on the BYTES of the
  segment file, and that applying `Crash.newOps` to the prior file gives the file `writerNew` (`Model/Header.lean`, the
  function C16's repair clause is about) describes.
-/
import ClockBound.Properties.CodeTieWriterNew
import ClockBound.Properties.C16
namespace ClockBound.OnCode
open ClockBound

/-- the content of the file at the path (`none`: no regular file) -/
def fileOf : FileState → Option Bytes
  | .file bs => some bs
  | _ => none

/-- the effect of one operation on the content of the file: `File::create` creates or truncates, the writes append
    (the file position is the end), `set_len(n)` grows a shorter file with zeros, the version store through the mapping
    patches bytes 12..13, `create_dir_all` and `sync_all` leave the content alone -/
def applyOp (f : Option Bytes) : Crash.Op → Option Bytes
  | .createDirAll => f
  | .create => some []
  | .writeU32 _ v => f.map (· ++ encU32 v)
  | .writeU16 _ v => f.map (· ++ encU16 v)
  | .writeAll n => f.map (· ++ List.replicate n 0)
  | .syncAll => f
  | .setLen n => f.map fun bs => bs ++ List.replicate (n - bs.length) 0
  | .storeVersion v => f.map fun bs => patch bs 12 (encU16 v)

/-- applying the operations of `new` to the prior file gives exactly the file of `writerNew` -/
theorem newOps_bytes (st : FileState) (hd : st ≠ .directory) (hasParent : Bool) :
    ∃ bs' rc, writerNew st = .ok (.file bs', rc) ∧
      (Crash.newOps (Crash.fileAOf st) hasParent).foldl applyOp (fileOf st) = some bs' ∧
      (rc = true ↔ (Crash.fileAOf st).usable = false) := by
  cases hu : (Crash.fileAOf st).usable
  · -- nothing opens: whatever is there is re-created, `File::create` first
    have hno : ∀ h, readerOpen st ≠ .ok h := fun h hro =>
      Bool.false_ne_true (hu.symm.trans ((Rs.WriterNewProof.usable_iff_open st).2 ⟨h, hro⟩))
    have hwipe : [Crash.Op.writeU32 .wipeMagic0 MAGIC0, .writeU32 .wipeMagic1 MAGIC1, .writeU32 .wipeSegsize SEGMENT_SIZE,
       .writeU16 .wipeVersion 0, .writeU16 .wipeGeneration 0, .writeAll (SEGMENT_SIZE - HEADER_SIZE), .syncAll,
       .storeVersion 1].foldl applyOp (some []) = some (patch wipeBytes 12 (encU16 1)) := by decide +kernel
    refine ⟨_, true, writerNew_of_not_open st hd hno, ?_, by simp⟩
    cases hasParent <;> simpa [Crash.newOps, hu, applyOp] using hwipe
  · -- the prior opens, so it is a file: grown to 72 bytes if shorter, then the version store
    obtain ⟨h, hok⟩ := (Rs.WriterNewProof.usable_iff_open st).1 hu
    cases st with
    | file bs =>
      refine ⟨_, false, writerNew_of_open bs h hok, ?_, by simp⟩
      have hlen : (Crash.fileAOf (.file bs)).len = bs.length := rfl
      simp only [Crash.newOps, hu, hlen, if_true]
      by_cases hl : bs.length < SEGMENT_SIZE
      · simp [hl, applyOp, fileOf, extendToSegment]
      · simp [hl, applyOp, fileOf, extendToSegment, show SEGMENT_SIZE - bs.length = 0 by omega]
    | _ => cases hok

end ClockBound.OnCode

/-
  Proofs of the translation tie for the two client libraries (statements in
  `Properties/CodeTieErrors.lean`): the base of the group.

  Method: `simp -implicitDefEqProofs only [rs_eval, rs_base, rs_code, <hypotheses on inp>]` normalises the interpreter
  on the generated AST to a closed outcome, once for each way through a function; a value the function only passes on
  (the reader, the error that is converted, the status) stays a variable.  A function of the two crates that another
  one calls (the `From` / `Default` impls, `new_with_path`) is evaluated on its own, as a lemma about `callDecl` for
  every fuel `n + 60` (`n + 100`); the evaluation of a caller rewrites with it before it looks into the call (a
  pre-rule, `↓`).

  `clientFns` / `ctxE` below are part of the STATEMENTS.
-/
import ClockBound.Proofs.RsLemmas
import ClockBound.Generated.Code
import ClockBound.Rs.EmbedErrors
namespace ClockBound.Rs.ErrorsProof
open ClockBound ClockBound.Rs ClockBound.Generated ClockBound.Rs.DictErrors ClockBound.Rs.EmbedErrors

/-- the regenerated functions of the two client crates (clock-bound-client/src/lib.rs is the module
    `client_lib`, clock-bound-ffi/src/lib.rs the module `ffi_lib`): every function of `Code.fns` that was
    translated from one of these two files, whatever its name -/
def clientFns : List (String × FnDecl) :=
  Code.fns.filter fun kv => kv.2.module == "client_lib" || kv.2.module == "ffi_lib"

/-- the context of this group: all generated tables, the dictionary `DictErrors.ext`, the input stream
    `inp`, and the function table restricted to the two client crates — so that the calls into
    clock-bound-shm (`ShmReader::new`, `ShmReader::snapshot`, `ClockErrorBound::now`) are calls to the
    ENVIRONMENT (dictionary: one input, one event each) instead of being interpreted -/
def ctxE (inp : Nat → Value) : Ctx := { Code.ctxWith 0 DictErrors.ext [] inp with fns := clientFns }

rs_register_eqns DictErrors.call DictErrors.method DictErrors.deref DictErrors.mkErrno DictErrors.errFrom

attribute [rs_eval] DictErrors.ext
  DictErrors.nullPtr DictErrors.cptr DictErrors.cstr DictErrors.cstring DictErrors.outPtr DictErrors.heapPtr
  DictErrors.boxValue DictErrors.readerValue DictErrors.intoValue DictErrors.defaultValue DictErrors.errnoValue
  DictErrors.evOpen DictErrors.evSnapshot DictErrors.evNow DictErrors.evWrite DictErrors.evDrop

-- the embeddings of the group and the model's outcomes (`Rs/EmbedErrors.lean`, `Model/ErrorsProg.lean`) that take their
-- argument apart only where it is a constructor; `shmErrorValue`, `ShmErrorV.toClient` and the names of the kinds stay
-- folded on an error that is a variable
attribute [rs_eval] clientErrValue ffiErrValue ffiStatusValue resultValue boundValue snapResValue boundResValue
  openResValue clientValue ctxValue nowCalls rustNowValue rustNowOutcome ffiNowValue ffiNowOutcome rustOpenOutcome
  ffiOpenOutcome errArg clientNow clientOpen recordValue ctimespecValue

@[rs_eval] theorem ctxE_fns (inp) : (ctxE inp).fns = clientFns := rfl
@[rs_eval] theorem ctxE_consts (inp) : (ctxE inp).consts = Code.consts := rfl
@[rs_eval] theorem ctxE_constTypes (inp) : (ctxE inp).constTypes = Code.constTypes := rfl
@[rs_eval] theorem ctxE_structs (inp) : (ctxE inp).structs = Code.structs := rfl
@[rs_eval] theorem ctxE_enums (inp) : (ctxE inp).enums = Code.enums := rfl
@[rs_eval] theorem ctxE_enumDiscr (inp) : (ctxE inp).enumDiscr = Code.enumDiscr := rfl
@[rs_eval] theorem ctxE_sizes (inp) : (ctxE inp).sizes = [] := rfl
@[rs_eval] theorem ctxE_inp (inp) : (ctxE inp).inp = inp := rfl
@[rs_eval] theorem ctxE_ext (inp) : (ctxE inp).ext = DictErrors.ext := rfl
@[rs_eval] theorem ctxE_nowNs (inp) : (ctxE inp).nowNs = 0 := rfl

/-- `clientFns` evaluated: `simp` finds the list, once, so that the evaluations of this group look functions up in the
    table of the two crates without filtering `Code.fns` again in each of them -/
def clientFnsNF : { l : List (String × FnDecl) // clientFns = l } :=
  ⟨_, by simp only [clientFns, rs_code, rs_base]; rfl⟩

@[rs_eval] theorem clientFns_eq : clientFns = clientFnsNF.1 := clientFnsNF.2
attribute [rs_eval] clientFnsNF

/-- `ClockStatus` values with a symbolic status: the two facts the method dispatch needs -/
theorem userTypeName_status (s : Status) : userTypeName (.enumv (statusName s) []) = some "ClockStatus" := by
  cases s <;> simp only [rs_eval, rs_base, rs_code]

theorem primMethod_status_into (ctx : Ctx) (s : Status) (st : St) :
    primMethod ctx (.enumv (statusName s) []) "into" [] st = none := by
  cases s <;> simp only [rs_eval, rs_base, rs_code]

/-- `fieldTyOf` without `Option.bind`: Mathlib's congruence rule for `Option.bind` makes `simp` compare the lookup in
    `Code.structs` before and after by unfolding it, string comparisons included, which takes seconds -/
@[rs_eval high] theorem fieldTyOf_struct (structs : List (String × List (String × String))) (f sn : String)
    (fs : List (String × Value)) :
    fieldTyOf structs f (some (.struct sn fs)) =
      match structs.lookup sn with
      | some decl => decl.lookup f
      | none => none := by
  show (structs.lookup sn).bind (·.lookup f) = _
  cases structs.lookup sn <;> rfl

/-! ### values the client functions only pass on -/

/-- a declared type that is not an integer type changes no value (for a value whose constructor is not known; the
    equations of `ascribe` come first) -/
@[rs_eval low] theorem ascribe_of_ofName_none {ty : String} (h : IntTy.ofName ty = none) (v : Value) :
    ascribe ty v = some v := by
  unfold ascribe
  split <;> simp [h]

/-- a dictionary without `letPtr` rule retypes nothing (for a value whose constructor is not known; the
    equations of `letValue` come first) -/
@[rs_eval low] theorem letValue_of_letPtr_none {ext : Ext} (h : ∀ t v, ext.letPtr t v = none) (ty : Option String)
    (v : Value) : letValue ext ty v = v := by
  unfold letValue
  split <;> try rfl
  all_goals split <;> simp [h]

end ClockBound.Rs.ErrorsProof

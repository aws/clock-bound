/-
  One turn of a loop, independently of its shape: lemmas used by `Proofs/RsPoller*.lean` and `RsDispatch*.lean`.
-/
import ClockBound.Proofs.RsLoop
import ClockBound.Rs.EmbedLoop
namespace ClockBound.Rs

rs_register_eqns findLoop
attribute [rs_eval] topSt

theorem turnIs_ite (ctx : Ctx) (fr : Frame) (c : Expr) (body : List Stmt) (K : Nat) (r : Res) (p : Prop)
    [Decidable p] (a b : TurnSpec) :
    turnIs ctx fr c body K r (if p then a else b) ↔ if p then turnIs ctx fr c body K r a else turnIs ctx fr c body K r b := by
  split <;> rfl

theorem turnIs_panic (ctx : Ctx) (fr : Frame) (c : Expr) (body : List Stmt) (K : Nat) (r : Res) :
    turnIs ctx fr c body K r .panic ↔ r = .panic := Iff.rfl

theorem turnIs_done (ctx : Ctx) (fr : Frame) (c : Expr) (body : List Stmt) (K : Nat) (r : Res) (l : List Value) (p : Nat) :
    turnIs ctx fr c body K r (.done l p)
    ↔ ∃ st : St, r = .val .unit st ∧ st.log = l ∧ st.pos = p ∧ envGet st.env "self" = none := Iff.rfl

theorem turnIs_next (ctx : Ctx) (fr : Frame) (c : Expr) (body : List Stmt) (K : Nat) (r : Res) (st : St) :
    turnIs ctx fr c body K r (.next st) ↔ r = evalWhile (K + 1) ctx fr c body st := Iff.rfl

theorem turnIs_val_done (ctx : Ctx) (fr : Frame) (c : Expr) (body : List Stmt) (K : Nat) (st : St) (l : List Value)
    (p : Nat) (h1 : st.log = l) (h2 : st.pos = p) (h3 : envGet st.env "self" = none) :
    turnIs ctx fr c body K (.val .unit st) (.done l p) := ⟨st, rfl, h1, h2, h3⟩

/-- `turnIs` with the rest of the loop as an opaque function `W` (so that the proofs can abstract the loop body, which
    otherwise is repeated in every leaf of a decision tree) -/
def turnIsW (W : St → Res) (r : Res) : TurnSpec → Prop
  | .panic => r = .panic
  | .done log pos => ∃ st : St, r = .val .unit st ∧ st.log = log ∧ st.pos = pos ∧ envGet st.env "self" = none
  | .next st => r = W st

theorem turnIs_W (ctx : Ctx) (fr : Frame) (c : Expr) (body : List Stmt) (K : Nat) (r : Res) (spec : TurnSpec) :
    turnIs ctx fr c body K r spec = turnIsW (evalWhile (K + 1) ctx fr c body) r spec := by
  cases spec <;> rfl

theorem turnIsW_ite (W : St → Res) (r : Res) (p : Prop) [Decidable p] (a b : TurnSpec) :
    turnIsW W r (if p then a else b) ↔ if p then turnIsW W r a else turnIsW W r b := by
  split <;> rfl
theorem turnIsW_panic (W : St → Res) (r : Res) : turnIsW W r .panic ↔ r = .panic := Iff.rfl
theorem turnIsW_done (W : St → Res) (r : Res) (l : List Value) (p : Nat) :
    turnIsW W r (.done l p)
    ↔ ∃ st : St, r = .val .unit st ∧ st.log = l ∧ st.pos = p ∧ envGet st.env "self" = none := Iff.rfl
theorem turnIsW_next (W : St → Res) (r : Res) (st : St) : turnIsW W r (.next st) ↔ r = W st := Iff.rfl

/-! ### `match`: evaluate the scrutinee first

  Unless it evaluates by value (`CallByValue`, `Proofs/RsEval.lean`), `simp only [rs_eval, rs_base, rs_code]` normalises
  the continuation `fun v st => evalArms .. v st` of a `match` for a SYMBOLIC `v` before the scrutinee is evaluated; for
  a `match` with many arms that inline big functions the resulting proof does not get through (simp or the kernel).
  With `↓eval_matchE_G` in the simp set there is no continuation: the arms are applied (`armsOn`) to the RESULT of the
  scrutinee, and unfold once that is a value. -/

/-- the arms of a `match` on the result of its scrutinee -/
def armsOn (n : Nat) (ctx : Ctx) (fr : Frame) (arms : List Arm) : Res → Res
  | .val v st => evalArms n ctx fr arms v st
  | .ret v st => .ret v st
  | .panic => .panic
  | .stuck m => .stuck m
  | .brk v st => .brk v st
  | .cont st => .cont st

theorem eval_matchE_G (n : Nat) (ctx : Ctx) (fr : Frame) (s : Expr) (arms : List Arm) (st : St) :
    eval (n + 1) ctx fr (.matchE s arms) st = armsOn n ctx fr arms (eval n ctx fr s st) := by
  simp only [eval]
  cases eval n ctx fr s st <;> rfl

@[rs_eval] theorem armsOn_val (n ctx fr arms v st) : armsOn n ctx fr arms (.val v st) = evalArms n ctx fr arms v st := rfl
@[rs_eval] theorem armsOn_ret (n ctx fr arms v st) : armsOn n ctx fr arms (.ret v st) = .ret v st := rfl
@[rs_eval] theorem armsOn_panic (n ctx fr arms) : armsOn n ctx fr arms .panic = .panic := rfl
@[rs_eval] theorem armsOn_stuck (n ctx fr arms m) : armsOn n ctx fr arms (.stuck m) = .stuck m := rfl
@[rs_eval] theorem armsOn_ite (n ctx fr arms) (c : Prop) [Decidable c] (a b : Res) :
    armsOn n ctx fr arms (if c then a else b) = if c then armsOn n ctx fr arms a else armsOn n ctx fr arms b := by
  split <;> rfl
@[rs_eval] theorem armsOn_orPanic {α} (n ctx fr arms) (o : Option α) (f : α → Res) :
    armsOn n ctx fr arms (orPanic o f) = orPanic o fun a => armsOn n ctx fr arms (f a) := by cases o <;> rfl

end ClockBound.Rs

/-
  Proofs of the translation tie for the two client libraries, part: `new_with_path`, `clockbound_open` (statements in
  `Properties/CodeTieErrors.lean`).  One evaluation for each way through a function.  Where `ShmReader::new` succeeds
  the reader it returns is only moved: those evaluations are for an arbitrary value `rd`.  `new_with_path` is
  evaluated as a call (`callDecl`), which `new` makes too.
-/
import ClockBound.Proofs.RsErrorsFrom
namespace ClockBound.Rs.ErrorsProof
open ClockBound ClockBound.Rs ClockBound.Generated ClockBound.Rs.DictErrors ClockBound.Rs.EmbedErrors

open scoped ClockBound.Rs.CallByValue

/-- `ClockBoundClient { reader }` for a reader given as a value -/
def clientOf (rd : Value) : Value := .struct "ClockBoundClient" [("reader", rd)]

/-- `clockbound_ctx { err, reader }` for a reader given as a value -/
def ctxOf (err rd : Value) : Value := .struct "clockbound_ctx" [("err", err), ("reader", rd)]

/-- the default path of the Rust client (the constant `CLOCKBOUND_SHM_DEFAULT_PATH` of clock-bound-client) -/
def defaultPath : String := "/var/run/clockbound/shm"

/-! ### `ClockBoundClient::new_with_path` -/

theorem rust_open_ok_decl (n : Nat) (inp : Nat → Value) (path : String) (rd : Value)
    (hs : path.contains (Char.ofNat 0) = false) (h0 : inp 0 = .enumv "Ok" [rd]) :
    callDecl (n + 100) (ctxE inp) Code.fn_ClockBoundClient__new_with_path .unit [.str path] { env := [], log := [], pos := 0 }
    = .val (.tuple [.enumv "Ok" [clientOf rd], .unit])
        { env := [], log := [evOpen (cstr (.str path)) (inp 0)], pos := 1 } := by
  simp -implicitDefEqProofs only [rs_eval, rs_base, rs_code, hs, h0, clientOf]

theorem rust_open_decl (n : Nat) (inp : Nat → Value) (path : String) (res : Except ShmErrorV Value)
    (hs : path.contains (Char.ofNat 0) = false) (h0 : inp 0 = openResValue res) :
    callDecl (n + 100) (ctxE inp) Code.fn_ClockBoundClient__new_with_path .unit [.str path] { env := [], log := [], pos := 0 }
    = .val (.tuple [resultValue clientErrValue clientValue (clientOpen res), .unit])
        { env := [], log := [evOpen (cstr (.str path)) (openResValue res)], pos := 1 } := by
  rw [← h0]
  cases res with
  | error e => simp -implicitDefEqProofs only [rs_eval, rs_base, rs_code, hs, h0]
  | ok h => exact rust_open_ok_decl n inp path (readerValue h) hs h0

/-! ### `clockbound_open` -/

/-- `err` is only bound on this path: whether it is NULL is not looked at -/
theorem ffi_open_ok (inp : Nat → Value) (path : Value) (errNull : Bool) (rd : Value)
    (h0 : inp 0 = .enumv "Ok" [rd]) :
    run (ctxE inp) "ffi_lib::clockbound_open" .unit [cptr path, errArg errNull]
    = .ok (heapPtr (ctxOf (ffiErrValue ⟨.none, 0, none⟩) rd)) .unit [evOpen (cstr path) (inp 0)] := by
  simp -implicitDefEqProofs only [rs_eval, rs_base, rs_code, h0, ctxOf]

/-- what `clockbound_open` needs to know of the error in `err.write(e.into())`: it is an enum value for which the two
    crates have no method `into`, so that the dictionary's rule for `into` applies -/
theorem shmErrorValue_into (e : ShmErrorV) :
    ∃ p args, shmErrorValue e = .enumv p args ∧
      ∀ inp, methodDecl (ctxE inp).fns (ctxE inp).enums (.enumv p args) "into" = none := by
  cases e <;> exact ⟨_, _, rfl, fun inp => by simp only [rs_eval, rs_base, rs_code]⟩

end ClockBound.Rs.ErrorsProof

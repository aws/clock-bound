/-
  Proofs of the translation tie for the two client libraries, part: the conversions (`From<ShmError>` of both
  crates, `From<ClockStatus>`, `Default for clockbound_err`).  Each is evaluated once per variant as a lemma about
  `callDecl` (`*_decl`): the statement about `run` follows from it (`Properties/CodeTieErrors.lean`), and it is the
  rewrite rule for the functions that call the conversion.
-/
import ClockBound.Proofs.RsErrors
namespace ClockBound.Rs.ErrorsProof
open ClockBound ClockBound.Rs ClockBound.Generated ClockBound.Rs.DictErrors ClockBound.Rs.EmbedErrors

open scoped ClockBound.Rs.CallByValue

/-! ### `impl From<ShmError> for ClockBoundError` -/

@[rs_eval ↓] theorem client_from_decl (n : Nat) (inp : Nat → Value) (e : ShmErrorV) (st : St) :
    callDecl (n + 60) (ctxE inp) Code.fn_From_ShmError__for_ClockBoundError__from .unit [shmErrorValue e] st
    = .val (.tuple [clientErrValue e.toClient, .unit]) st := by
  cases e <;> simp -implicitDefEqProofs only [rs_eval, rs_base, rs_code, shmErrorValue, ShmErrorV.toClient,
    clientKindValue]

/-- how a call `ClockBoundError::from(e)` on a `ShmError` is resolved: not by that name, nor as `From<..>` of the type
    name of the value (the path of its variant), but as the impl of `From` for the enum of the variant -/
@[rs_eval ↓] theorem client_from_keys (inp : Nat → Value) (fr : Frame) (e : ShmErrorV) :
    lookupFn (ctxE inp).fns (callKeys fr ["ClockBoundError", "from"] [shmErrorValue e]) = none ∧
    lookupFn (ctxE inp).fns (enumFromKeys (ctxE inp).enums fr ["ClockBoundError", "from"] [shmErrorValue e])
      = some Code.fn_From_ShmError__for_ClockBoundError__from := by
  cases e <;> simp -implicitDefEqProofs only [rs_eval, rs_base, rs_code, shmErrorValue]

/-- `e?` on a `ShmError`: the dictionary asks for the `From<ShmError>` impl of the enclosing function's error type,
    whatever the variant -/
@[rs_eval] theorem errFrom_shmErrorValue (ret : String) (e : ShmErrorV) :
    DictErrors.errFrom ret (shmErrorValue e) = some (.ext "From::from" [.str "ShmError"]) := by
  cases e <;> rfl

/-! ### `impl From<ShmError> for clockbound_err` -/

@[rs_eval ↓] theorem ffi_from_decl (n : Nat) (inp : Nat → Value) (e : ShmErrorV) (st : St) :
    callDecl (n + 60) (ctxE inp) Code.fn_From_ShmError__for_clockbound_err__from .unit [shmErrorValue e] st
    = .val (.tuple [ffiErrValue e.toClient, .unit]) st := by
  cases e <;> simp -implicitDefEqProofs only [rs_eval, rs_base, rs_code, shmErrorValue, ShmErrorV.toClient,
    ffiKindValue, ffiKindName]

@[rs_eval ↓] theorem ffi_from_keys (inp : Nat → Value) (fr : Frame) (e : ShmErrorV) :
    lookupFn (ctxE inp).fns (callKeys fr ["clockbound_err", "from"] [shmErrorValue e]) = none ∧
    lookupFn (ctxE inp).fns (enumFromKeys (ctxE inp).enums fr ["clockbound_err", "from"] [shmErrorValue e])
      = some Code.fn_From_ShmError__for_clockbound_err__from := by
  cases e <;> simp -implicitDefEqProofs only [rs_eval, rs_base, rs_code, shmErrorValue]

/-! ### `impl From<ClockStatus> for clockbound_clock_status` -/

/-- the argument as `rs_eval` writes `statusValue s` -/
@[rs_eval ↓] theorem ffi_status_from_decl (n : Nat) (inp : Nat → Value) (s : Status) (st : St) :
    callDecl (n + 60) (ctxE inp) Code.fn_From_ClockStatus__for_clockbound_clock_status__from .unit [.enumv (statusName s) []] st
    = .val (.tuple [ffiStatusValue s, .unit]) st := by
  cases s <;> simp -implicitDefEqProofs only [rs_eval, rs_base, rs_code, ffiStatusName]

/-! ### `impl Default for clockbound_err` -/

@[rs_eval ↓] theorem ffi_default_decl (n : Nat) (inp : Nat → Value) (st : St) :
    callDecl (n + 60) (ctxE inp) Code.fn_Default_for_clockbound_err__default .unit [] st
    = .val (.tuple [ffiErrValue ⟨.none, 0, none⟩, .unit]) st := by
  simp -implicitDefEqProofs only [rs_eval, rs_base, rs_code, ffiKindValue, ffiKindName]

end ClockBound.Rs.ErrorsProof

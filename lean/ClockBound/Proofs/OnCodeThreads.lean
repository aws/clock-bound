/-
  Helper lemmas for `Properties/OnCodeThreads.lean`: the whole event log of the interpreted main thread read as the
  model's program; the operation sequences the model's main thread accepts are exactly the prefixes of its programs;
  main's operations along a schedule of the thread system (`mainTrace`) are such a sequence.
-/
import ClockBound.Properties.CodeTieThreads
import ClockBound.Properties.CodeTieWorkers
namespace ClockBound.OnCodeProof
open ClockBound ClockBound.Rs ClockBound.Rs.EmbedThreads ClockBound.Rs.EmbedWorkers ClockBound.Threads
open ClockBound.ThreadsProg ClockBound.Rs.ThreadsProof ClockBound.CodeTieThreads

theorem abs_isNotice {m : RMsg} {x : Threads.Msg} : m.abs = some x → x.isNotice = m.isNotice := by
  fun_cases RMsg.abs m <;> rintro ⟨⟩ <;> rfl

/-- the model messages main ignored: the abstractions of the `k` messages received before the notice -/
def ignoredOf (k : Nat) (pre : Nat → RMsg) : List Threads.Msg := (List.range k).filterMap fun j => (pre j).abs

theorem ignoredOf_nonNotice (k : Nat) (pre : Nat → RMsg) (hnot : ∀ i, i < k → (pre i).isNotice = false) :
    ∀ x ∈ ignoredOf k pre, x.isNotice = false :=
  List.forall_mem_filterMap.2 fun i hi x hx => by rw [abs_isNotice hx, hnot i (List.mem_range.1 hi)]

/-- THE WHOLE LOG of the main thread (from its loop on), read as model operations, is the model's program -/
theorem mainEvs_abs (k : Nat) (pre : Nat → RMsg) (m : RMsg) (n : Threads.Msg) (hm : m.abs = some n)
    (ks : List Thread) (hks : isOrder ks = true) (ok1 ok2 okP okW : Bool) (nP nW : String) :
    (mainEvs k pre (.ok m) ks ok1 ok2 nP nW okP okW).filterMap MainEv.abs
    = mainProg (ignoredOf k pre) n (firstWorker ks) := by
  have hsplit : mainEvs k pre (.ok m) ks ok1 ok2 nP nW okP okW
      = (List.range k).map (fun j => MainEv.recv (.ok (pre j)))
        ++ mainEvs 0 (fun _ => m) (.ok m) ks ok1 ok2 nP nW okP okW := by
    simp [mainEvs, List.append_assoc]
  rw [hsplit, List.filterMap_append, main_ops_tail ks hks m n hm ok1 ok2 okP okW nP nW]
  simp [mainProg, ignoredOf, List.filterMap_map, List.map_filterMap, Function.comp_def, MainEv.abs]

/-! ### the model's main thread accepts exactly the prefixes of its programs -/

/-- what the model's main thread still has to do at `pc` if it ignores `ig`, is stopped by the notice `n` and sends
    its first Abort to `f` (once the notice is received `ig` and `n` are behind it, after the first Abort so is `f`) -/
def restOf (ig : List Threads.Msg) (n : Threads.Msg) (f : Worker) : MainPc → List MainOp
  | .loop => mainProg ig n f
  | .bcast0 => [.abort f, .abort (other f), .join .poller, .join .writer]
  | .bcastP => [.abort .writer, .join .poller, .join .writer]
  | .bcastW => [.abort .poller, .join .poller, .join .writer]
  | .joinP => [.join .poller, .join .writer]
  | .joinW => [.join .writer]
  | .returned => []

/-- a step of the control flow takes the head off some `restOf` -/
theorem restOf_step {pc pc1 : MainPc} {op : MainOp} (h : mainNext pc op = some pc1) (ig : List Threads.Msg)
    (n : Threads.Msg) (f : Worker) (hig : ∀ x ∈ ig, x.isNotice = false) (hn : n.isNotice = true) :
    ∃ ig' n' f', (∀ x ∈ ig', x.isNotice = false) ∧ n'.isNotice = true ∧
      restOf ig' n' f' pc = op :: restOf ig n f pc1 := by
  fun_cases mainNext pc op <;> simp only [mainNext, Option.some.injEq, reduceCtorEq] at h <;> subst h
  -- in the loop: a message that is no notice joins `ig`, a notice is `n`
  next m =>
    cases hm : m.isNotice
    · exact ⟨m :: ig, n, f, by simpa [hm] using hig, hn, by simp [restOf, mainProg]⟩
    · exact ⟨[], m, f, by simp, hm, rfl⟩
  -- the first Abort is `f`
  · exact ⟨ig, n, .poller, hig, hn, rfl⟩
  · exact ⟨ig, n, .writer, hig, hn, rfl⟩
  all_goals exact ⟨ig, n, f, hig, hn, rfl⟩

/-- every sequence accepted from `pc` is a prefix of what some program has left at `pc` (a notice from the poller's
    panic completes a sequence that has not received one yet) -/
theorem prefix_of_accepts (ops : List MainOp) (pc pc' : MainPc) (h : mainNexts pc ops = some pc') :
    ∃ ig n f, (∀ x ∈ ig, x.isNotice = false) ∧ n.isNotice = true ∧ ops <+: restOf ig n f pc := by
  fun_induction mainNexts pc ops
  · exact ⟨[], .notice .poller .panic, .poller, by simp, rfl, List.nil_prefix⟩
  · next h1 ih =>
    obtain ⟨ig, n, f, hig, hn, hp⟩ := ih h
    obtain ⟨ig', n', f', hig', hn', e⟩ := restOf_step h1 ig n f hig hn
    exact ⟨ig', n', f', hig', hn', e ▸ List.cons_prefix_cons.2 ⟨rfl, hp⟩⟩
  · cases h

theorem accepts_of_prefix (ops : List MainOp) (ig : List Threads.Msg) (n : Threads.Msg) (f : Worker)
    (hig : ∀ x ∈ ig, x.isNotice = false) (hn : n.isNotice = true) (hp : ops <+: mainProg ig n f) :
    ∃ pc, mainNexts .loop ops = some pc := by
  obtain ⟨rest, hr⟩ := hp
  have h := ThreadsProgProps.main_prog_pcs ig n f hig hn
  rw [← hr, mainNexts_append] at h
  obtain ⟨pc, hpc, -⟩ := Option.bind_eq_some_iff.1 h
  exact ⟨pc, hpc⟩

/-! ### what the main thread does along a schedule of the model -/

/-- the operation the main thread performs when the model takes action `a` in state `s` (`none`: not a step of main) -/
def mainOpOf (s : State) : Action → Option MainOp
  | .main =>
    match s.m with
    | .loop => s.qM.head?.map .recv
    | .bcastP => some (.abort .writer)
    | .bcastW => some (.abort .poller)
    | .joinP => some (.join .poller)
    | .joinW => some (.join .writer)
    | _ => none
  | .mainAbort w => if s.m = .bcast0 then some (.abort w) else none
  | _ => none

/-- main's operations along a schedule -/
def mainTrace : State → List Action → List MainOp
  | _, [] => []
  | s, a :: rest =>
    match step s a with
    | some s' => (mainOpOf s a).toList ++ mainTrace s' rest
    | none => []

theorem step_mainOp {s s' : State} {a : Action} (h : step s a = some s') :
    mainNexts s.m (mainOpOf s a).toList = some s'.m := by
  cases step_iff.1 h <;> simp [mainOpOf, mainNexts, mainNext, *]

theorem run_mainTrace (s s' : State) (acts : List Action) (h : Threads.run s acts = some s') :
    mainNexts s.m (mainTrace s acts) = some s'.m := by
  fun_induction Threads.run s acts
  · cases h
    rfl
  · next hs ih => simpa [mainTrace, hs, mainNexts_append, step_mainOp hs] using ih h
  · cases h

/-! ### every model message is the abstraction of a Rust message -/

def reprMsg : Threads.Msg → RMsg
  | .data => .noData .chrony
  | .abort => .abort
  | .notice .poller .terminate => .terminate .poller
  | .notice .poller .panic => .panic .poller
  | .notice .writer .terminate => .terminate .writer
  | .notice .writer .panic => .panic .writer

theorem reprMsg_abs (x : Threads.Msg) : (reprMsg x).abs = some x := by
  fun_cases reprMsg x <;> rfl

theorem ignoredOf_repr (ig : List Threads.Msg) :
    ignoredOf ig.length (fun j => reprMsg (ig.getD j .data)) = ig := by
  simp only [ignoredOf, reprMsg_abs, List.filterMap_eq_map']
  apply List.ext_getElem <;> simp +contextual

/-- a box whose first worker is `f` -/
def orderOf : Worker → List Thread
  | .poller => [.poller, .main, .writer]
  | .writer => [.writer, .main, .poller]

theorem orderOf_isOrder (f : Worker) : isOrder (orderOf f) = true := by cases f <;> decide
theorem orderOf_first (f : Worker) : firstWorker (orderOf f) = f := by cases f <;> rfl

end ClockBound.OnCodeProof

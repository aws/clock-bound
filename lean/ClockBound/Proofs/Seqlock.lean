/-
  The invariants behind C02 and C03: what every reachable log looks like (`LogInv`), where the writer
  stands in its update (`WPcInv`), what the reader knows of the log (`RInv`), and what it caches and
  returns (`CInv`). Core Lean only.
-/
import ClockBound.Proofs.SeqlockLog
import ClockBound.Proofs.Gen
namespace ClockBound.SL
open ClockBound

/-! ### the generation potential -/

/-- Potential of a generation value. The first store of an update (even → odd, or a restarted writer's
    odd → same odd) keeps it, the second (odd → even) advances it by one mod 32767, also across the
    16-bit wrap 65535 → 2. So the potentials of two generation messages differ by the number of
    completed updates between them, and equal even values lie a multiple of 32767 updates apart. -/
def phi (v : Nat) : Nat := v / 2 % 32767

theorem phi_lt (v : Nat) : phi v < 32767 := Nat.mod_lt _ (by decide)

theorem phi_genStart {v : Nat} (hv : v < 65536) : phi (genStart v) = phi v := by
  unfold genStart phi
  split <;> omega

theorem phi_genFinish {g : Nat} (hg : g < 65536) (ho : g % 2 = 1) : phi (genFinish g) = (phi g + 1) % 32767 := by
  rw [genFinish_eq]
  unfold phi
  split <;> omega

/-! ### the log invariant -/

/-- `ver`, `gen`, `cells0` are what the segment held when the first process found it. -/
structure LogInv (a : Ann) (ver gen : Nat) (cells0 : List Nat) (log : Log) (written : List (List Nat)) : Prop where
  len0 : cells0.length = N
  pre : ∀ (i : Nat) (m : Msg), (initBlock ver gen cells0)[i]? = some m → log[i]? = some m
  genLt : ∀ (i : Nat) (m : Msg), log[i]? = some m → m.loc = .gen → m.val < 65536
  genNz : ∀ (i : Nat) (m : Msg), log[i]? = some m → m.loc = .gen → N + 1 < i → m.val ≠ 0
  /-- an even generation is stored with release, so it carries itself -/
  genCar : a.adequate = true → ∀ (i : Nat) (m : Msg), log[i]? = some m → m.loc = .gen →
      m.val % 2 = 0 → i + 1 ≤ m.carried
  pot : ∀ (i : Nat) (m : Msg), log[i]? = some m → m.loc = .gen →
      phi m.val = (phi gen + evenGenBetween log (N + 1) i) % 32767
  /-- a cell is stored only inside an update: the generation message before it is odd, and the
      release fence makes the cell message carry it -/
  cellOdd : ∀ (j : Nat) (m : Msg), log[j]? = some m → ∀ c, m.loc = .cell c → N + 2 ≤ j →
      ∃ (o : Nat) (mo : Msg), lastBefore log .gen j = some o ∧ log[o]? = some mo ∧ mo.val % 2 = 1 ∧
        (a.adequate = true → o < m.carried)
  pub : ∀ (e : Nat) (m : Msg), log[e]? = some m → m.loc = .gen → m.val % 2 = 0 → m.val ≠ 0 →
      pubCells log e = cells0 ∨ pubCells log e ∈ written

section
variable {a : Ann} {ver gen : Nat} {cells0 : List Nat} {log : Log} {written : List (List Nat)}

theorem LogInv.init (a : Ann) (ver gen : Nat) {cells0 : List Nat} (hc : cells0.length = N) (hg : gen < 65536) :
    LogInv a ver gen cells0 (initBlock ver gen cells0) [] where
  len0 := hc
  pre _ _ h := h
  genLt i m hm hl := by rw [(initBlock_gen hm hl).2]; exact hg
  genNz i m hm hl hi := by have := (initBlock_gen hm hl).1; omega
  genCar _ i m hm hl _ := by rw [initBlock_carried hm, (initBlock_gen hm hl).1]; exact Nat.le_refl _
  pot i m hm hl := by
    rw [(initBlock_gen hm hl).1, (initBlock_gen hm hl).2, hc, eGB_of_le _ (Nat.le_refl _), Nat.add_zero,
      Nat.mod_eq_of_lt (phi_lt gen)]
  cellOdd j m hm c _ hj := by have := lt_length_of_getElem? hm; rw [initBlock_length] at this; omega
  pub e m hm hl _ _ := by rw [(initBlock_gen hm hl).1, hc]; exact Or.inl (pubCells_initBlock ver gen hc)

theorem LogInv.mono_written {written' : List (List Nat)} (h : LogInv a ver gen cells0 log written)
    (hw : ∀ r, r ∈ written → r ∈ written') : LogInv a ver gen cells0 log written' :=
  { h with pub := fun e m hm hl he hz => (h.pub e m hm hl he hz).imp id (hw _) }

/-! The initial block stays where it is, so every location the reader loads from holds a message. -/

theorem LogInv.has_cell (h : LogInv a ver gen cells0 log written) {c : Nat} (hcN : c < N) :
    ∃ m, log[c]? = some m ∧ m.loc = .cell c :=
  ⟨_, h.pre _ _ (initBlock_getElem?_eq_some.2 (.inl ⟨_, List.getElem?_eq_getElem (h.len0 ▸ hcN), rfl⟩)), rfl⟩

theorem LogInv.has_version (h : LogInv a ver gen cells0 log written) :
    ∃ m, log[N]? = some m ∧ m.loc = .version :=
  ⟨_, h.pre _ _ (initBlock_getElem?_eq_some.2 (.inr (.inl ⟨h.len0.symm, rfl⟩))), rfl⟩

theorem LogInv.has_gen (h : LogInv a ver gen cells0 log written) :
    ∃ m, log[N + 1]? = some m ∧ m.loc = .gen :=
  ⟨_, h.pre _ _ (initBlock_getElem?_eq_some.2 (.inr (.inr ⟨by rw [h.len0], rfl⟩))), rfl⟩

theorem LogInv.gen_idx_ge (h : LogInv a ver gen cells0 log written) {i : Nat} {m : Msg}
    (hm : log[i]? = some m) (hl : m.loc = .gen) : N + 1 ≤ i := by
  apply Nat.le_of_not_lt
  intro hi
  have hc := h.len0
  have h0 := List.getElem?_eq_getElem (l := initBlock ver gen cells0) (i := i) (by rw [initBlock_length]; omega)
  have := h.pre i _ h0
  rw [hm, Option.some.injEq] at this
  have := (initBlock_gen h0 (this ▸ hl)).1
  omega

/-- the newest generation message -/
theorem LogInv.newest_gen (h : LogInv a ver gen cells0 log written) :
    ∃ (ℓ : Nat) (m : Msg), lastBefore log .gen log.length = some ℓ ∧ log[ℓ]? = some m ∧ m.loc = .gen ∧
      m.val = latest log .gen := by
  obtain ⟨mg, hmg, hlg⟩ := h.has_gen
  obtain ⟨ℓ, hℓ⟩ := lastBefore_exists (lt_length_of_getElem? hmg) hmg hlg
  obtain ⟨_, ⟨m, hm, hl⟩, _⟩ := lastBefore_eq_some_iff.1 hℓ
  exact ⟨ℓ, m, hℓ, hm, hl, (latest_eq_of_lastBefore hℓ hm).symm⟩

theorem LogInv.latest_gen_lt (h : LogInv a ver gen cells0 log written) :
    latest log .gen < 65536 := by
  obtain ⟨ℓ, m, _, hm, hl, hv⟩ := h.newest_gen
  exact hv ▸ h.genLt ℓ m hm hl

/-- A store keeps the invariant if a generation store continues the potential and, when even, completes
    a written record, and a cell store happens under an odd generation behind the release fence. -/
theorem LogInv.store (h : LogInv a ver gen cells0 log written) {rel : Nat} {x : Loc} {val : Nat} {ord : Ord}
    (hgen : x = .gen → val < 65536 ∧ val ≠ 0 ∧ (a.adequate = true → val % 2 = 0 → ord.isRel = true) ∧
        phi val = (phi (latest log .gen) + if val % 2 = 0 then 1 else 0) % 32767 ∧
        (val % 2 = 0 → pubCells log log.length ∈ written))
    (hcell : ∀ c, x = .cell c → latest log .gen % 2 = 1 ∧
        (a.adequate = true → ∀ ℓ, lastBefore log .gen log.length = some ℓ → ℓ < rel)) :
    LogInv a ver gen cells0 (storeMsg log rel x val ord) written := by
  obtain ⟨ℓ, mℓ, hℓ, hmℓ, hlℓ, hvℓ⟩ := h.newest_gen
  unfold storeMsg
  exact {
    len0 := h.len0
    pre := fun i m hm => getElem?_append_some (h.pre i m hm)
    genLt := forall_getElem?_snoc (fun i m _ => h.genLt i m) (fun hl => (hgen hl).1)
    genNz := forall_getElem?_snoc (fun i m _ => h.genNz i m) (fun hl _ => (hgen hl).2.1)
    genCar := fun ha => forall_getElem?_snoc (fun i m _ => h.genCar ha i m)
      (fun hl he => by simp [(hgen hl).2.2.1 ha he])
    pot := forall_getElem?_snoc (fun i m hi hm hl => by rw [eGB_append hi]; exact h.pot i m hm hl)
      (fun hl => by
        have hℓpot := h.pot ℓ mℓ hmℓ hlℓ
        have hval := (hgen hl).2.2.2.1
        rw [eGB_snoc_gen hℓ hl (h.gen_idx_ge hmℓ hlℓ)]
        rw [hvℓ] at hℓpot
        dsimp only
        omega)
    cellOdd := forall_getElem?_snoc
      (fun j m hj hm c hl hge => by
        obtain ⟨o, mo, h1, h2, h3⟩ := h.cellOdd j m hm c hl hge
        exact ⟨o, mo, by rw [lastBefore_append (Nat.le_of_lt hj)]; exact h1, getElem?_append_some h2, h3⟩)
      (fun c hl _ => by
        refine ⟨ℓ, mℓ, by rw [lastBefore_append (Nat.le_refl _)]; exact hℓ, getElem?_append_some hmℓ,
          hvℓ ▸ (hcell c hl).1, fun ha => ?_⟩
        have := (hcell c hl).2 ha ℓ hℓ
        have := (lastBefore_eq_some_iff.1 hℓ).1
        dsimp only; split <;> omega)
    pub := forall_getElem?_snoc
      (fun e m he hm hl hev hnz => by rw [pubCells_append (Nat.le_of_lt he)]; exact h.pub e m hm hl hev hnz)
      (fun hl hev _ => by rw [pubCells_append (Nat.le_refl _)]; exact Or.inr ((hgen hl).2.2.2.2 hev)) }

/-! ### the writer invariant -/

theorem Ann.adequate_iff (a : Ann) : a.adequate = true ↔
    a.wStore2.isRel = true ∧ (∃ o, a.wFence = some o ∧ o.isRel = true) ∧ a.rGen1.isAcq = true ∧
      a.rGen2.isAcq = true ∧ (∃ o, a.rFence = some o ∧ o.isAcq = true) := by
  unfold Ann.adequate
  cases a.wFence <;> cases a.rFence <;> simp [and_assoc]

/-- Where the writer stands: the record it is writing was passed to `write`; from the first store on
    the newest generation is its odd `g`; during the copy the release fence lies behind that
    generation message, and the cells already copied are the newest at their locations. -/
def WPcInv (a : Ann) (log : Log) (w : Writer) (written : List (List Nat)) : Prop :=
  match w.pc with
  | .idle => True
  | .newVersion => True
  | .loadGen rec => rec ∈ written ∧ rec.length = N
  | .store1 rec g => rec ∈ written ∧ rec.length = N ∧ g = genStart (latest log .gen)
  | .fence rec g => rec ∈ written ∧ rec.length = N ∧ g % 2 = 1 ∧ latest log .gen = g
  | .copy rec g todo => rec ∈ written ∧ rec.length = N ∧ g % 2 = 1 ∧ latest log .gen = g ∧
      (a.adequate = true → ∀ ℓ, lastBefore log .gen log.length = some ℓ → ℓ < w.relFence) ∧
      ∀ c, c < N → c ∉ todo → latest log (.cell c) = rec[c]?.getD 0
  | .store2 rec g => rec ∈ written ∧ rec.length = N ∧ g % 2 = 1 ∧ latest log .gen = g ∧
      ∀ c, c < N → latest log (.cell c) = rec[c]?.getD 0

/-! Writer and reader copy the cells in any order, striking each off a to-do list. -/

theorem getElem?_min_none {todo : List Nat} {pick : Nat}
    (h : todo[min pick (todo.length - 1)]? = none) : todo = [] := by
  have := List.getElem?_eq_none_iff.1 h
  apply List.eq_nil_of_length_eq_zero
  omega

/-- striking `c` off the list: what held of the cells not on it holds of the cells not on the rest,
    once it holds of `c` -/
theorem forall_not_mem_rest {todo : List Nat} {c : Nat} {P P' : Nat → Prop}
    (hold : ∀ c', c' < N → c' ∉ todo → P c') (hc : P' c) (hmono : ∀ c', c' ≠ c → P c' → P' c') :
    ∀ c', c' < N → c' ∉ todo.filter (· != c) → P' c' := by
  intro c' hc' hn
  by_cases hcc : c' = c
  · exact hcc ▸ hc
  · exact hmono c' hcc (hold c' hc' fun hmem => hn (List.mem_filter.2 ⟨hmem, by simpa using hcc⟩))

theorem wStep_inv (hL : LogInv a ver gen cells0 log written) (w : Writer)
    (hP : WPcInv a log w written) (pick : Nat) :
    LogInv a ver gen cells0 (wStep a log w pick).1 written ∧
      WPcInv a (wStep a log w pick).1 (wStep a log w pick).2.1 written := by
  obtain ⟨pc, rel⟩ := w
  cases pc with
  | idle => exact ⟨hL, trivial⟩
  | newVersion => exact ⟨hL.store nofun nofun, trivial⟩
  | loadGen rec => exact ⟨hL, hP.1, hP.2, rfl⟩
  | store1 rec g =>
    obtain ⟨h1, h2, rfl⟩ := hP
    have f3 := genStart_odd (latest log .gen)
    refine ⟨hL.store (fun _ => ⟨genStart_lt _ hL.latest_gen_lt, genStart_ne_zero _, by omega, ?_, by omega⟩)
      nofun, ?_⟩
    · rw [if_neg (by omega), phi_genStart hL.latest_gen_lt, Nat.add_zero, Nat.mod_eq_of_lt (phi_lt _)]
    · have hlat := latest_storeMsg log rel .gen .gen (genStart (latest log .gen)) a.wStore1
      rw [if_pos rfl] at hlat
      simp only [wStep]
      cases hf : a.wFence with
      | some o => exact ⟨h1, h2, f3, hlat⟩
      | none =>
        refine ⟨h1, h2, f3, hlat, fun ha => ?_, fun c hc' hn => absurd (List.mem_range.2 (by omega)) hn⟩
        obtain ⟨_, ⟨o, ho, _⟩, _⟩ := (Ann.adequate_iff a).1 ha
        rw [hf] at ho; cases ho
  | fence rec g =>
    obtain ⟨h1, h2, h3, h4⟩ := hP
    refine ⟨hL, h1, h2, h3, h4, fun ha ℓ hℓ => ?_, fun c hc' hn => absurd (List.mem_range.2 (by omega)) hn⟩
    obtain ⟨_, ⟨o, ho, hr⟩, _⟩ := (Ann.adequate_iff a).1 ha
    simp only [wStep, ho, Option.getD_some, hr, if_true]
    exact (lastBefore_eq_some_iff.1 hℓ).1
  | copy rec g todo =>
    obtain ⟨h1, h2, h3, h4, hfen, hcells⟩ := hP
    simp only [wStep]
    split
    · next hpick =>
      exact ⟨hL, h1, h2, h3, h4, fun c hc' => hcells c hc' (by simp [getElem?_min_none hpick])⟩
    · next c hpick =>
      have hgen' : latest (storeMsg log rel (.cell c) (rec[c]?.getD 0) .relaxed) .gen = g := by
        rw [latest_storeMsg, if_neg nofun]; exact h4
      have hnew := forall_not_mem_rest hcells
        (P' := fun c' => latest (storeMsg log rel (.cell c) (rec[c]?.getD 0) .relaxed) (.cell c') = rec[c']?.getD 0)
        (by rw [latest_storeMsg, if_pos rfl])
        (fun c' hcc h => by rw [latest_storeMsg, if_neg (fun e => hcc (Loc.cell.inj e).symm)]; exact h)
      refine ⟨hL.store nofun (fun _ _ => ⟨h4 ▸ h3, hfen⟩), ?_⟩
      split
      · next hr => exact ⟨h1, h2, h3, hgen', fun c' hc' => hnew c' hc' (by simp [List.isEmpty_iff.1 hr])⟩
      · refine ⟨h1, h2, h3, hgen', fun ha ℓ hℓ => hfen ha ℓ ?_, hnew⟩
        rwa [lastBefore_storeMsg, if_neg nofun] at hℓ
  | store2 rec g =>
    obtain ⟨h1, h2, h3, h4, hcells⟩ := hP
    refine ⟨hL.store (fun _ => ⟨genFinish_lt g, genFinish_ne_zero g,
      fun ha _ => ((Ann.adequate_iff a).1 ha).1, ?_, fun _ => ?_⟩) nofun, trivial⟩
    · rw [if_pos (genFinish_even g h3), h4, phi_genFinish (h4 ▸ hL.latest_gen_lt) h3]
    · rw [pubCells_length_eq h2 hcells]; exact h1

/-! ### the reader invariant -/

def AttemptInv (log : Log) (v : View) (g1Idx acceptedIdx g1 : Nat) : Prop :=
  (∃ m, log[g1Idx]? = some m ∧ m.loc = .gen ∧ m.val = g1) ∧ g1 % 2 = 0 ∧ g1 ≠ 0 ∧
  g1Idx + 1 ≤ v.cur ∧ acceptedIdx ≤ g1Idx ∧ g1Idx ≤ v.cohOf .gen

def CellRead (log : Log) (g1Idx bound : Nat) (got : List (Nat × Nat)) (c : Nat) : Prop :=
  ∃ (j : Nat) (m : Msg), log[j]? = some m ∧ m.loc = .cell c ∧
    ((got.find? (fun p => p.1 == c)).map (·.2)).getD 0 = m.val ∧ m.carried ≤ bound ∧
    ∀ (k : Nat) (mk : Msg), j < k → k < g1Idx + 1 → log[k]? = some mk → mk.loc ≠ .cell c

def RPcInv (log : Log) (v : View) (g1Idx acceptedIdx : Nat) : RPc → Prop
  | .idle | .version | .gen1 => True
  | .copy g1 _ todo got => AttemptInv log v g1Idx acceptedIdx g1 ∧ (∀ c ∈ todo, c < N) ∧
      ∀ c, c < N → c ∉ todo → CellRead log g1Idx v.acq got c
  | .fence g1 _ got => AttemptInv log v g1Idx acceptedIdx g1 ∧ ∀ c, c < N → CellRead log g1Idx v.acq got c
  | .gen2 g1 _ got => AttemptInv log v g1Idx acceptedIdx g1 ∧ ∀ c, c < N → CellRead log g1Idx v.cur got c

structure RInv (log : Log) (r : Reader) : Prop where
  view : ViewInv log r.view
  accCoh : r.acceptedIdx ≤ r.view.cohOf .gen
  pc : RPcInv log r.view r.g1Idx r.acceptedIdx r.pc

theorem RInv.empty (log : Log) : RInv log {} :=
  ⟨.empty log, Nat.zero_le _, trivial⟩

/-- an attempt starts from an even, non-zero generation read with acquire from a release store -/
theorem AttemptInv.start {log : Log} {v : View} {ord : Ord} {j ai : Nat} {m : Msg}
    (hm : log[j]? = some m) (hl : m.loc = .gen) (hev : m.val % 2 = 0) (hnz : m.val ≠ 0)
    (hacq : ord.isAcq = true) (hcar : j + 1 ≤ m.carried) (hai : ai ≤ j) :
    AttemptInv log (loadView v .gen ord j m.carried) j ai m.val := by
  refine ⟨⟨m, hm, hl, rfl⟩, hev, hnz, ?_, hai, ?_⟩
  · rw [loadView_cur, if_pos hacq]; omega
  · rw [loadView_cohOf, if_pos rfl]; exact Nat.le_refl _

theorem AttemptInv.mono {log : Log} {v v' : View} {gi ai g1 : Nat} (h : AttemptInv log v gi ai g1)
    (hcur : v.cur ≤ v'.cur) (hcoh : v.cohOf .gen ≤ v'.cohOf .gen) : AttemptInv log v' gi ai g1 :=
  ⟨h.1, h.2.1, h.2.2.1, Nat.le_trans h.2.2.2.1 hcur, h.2.2.2.2.1, Nat.le_trans h.2.2.2.2.2 hcoh⟩

theorem CellRead.mono {log : Log} {gi b b' : Nat} {got : List (Nat × Nat)} {c : Nat}
    (h : CellRead log gi b got c) (hb : b ≤ b') : CellRead log gi b' got c := by
  obtain ⟨j, m, h1, h2, h3, h4, h5⟩ := h
  exact ⟨j, m, h1, h2, h3, Nat.le_trans h4 hb, h5⟩

theorem rStep_inv (hL : LogInv a ver gen cells0 log written) (ha : a.adequate = true)
    (hcar : CarLe log) (r : Reader) (hR : RInv log r) (pc pm : Nat) : RInv log (rStep a log r pc pm).1 := by
  obtain ⟨_, _, hacq1, hacq2, of, hof, hofa⟩ := (Ann.adequate_iff a).1 ha
  have hafter : ∀ g1 retries got, afterCopy a g1 retries got = .fence g1 retries got :=
    fun _ _ _ => by rw [afterCopy, hof]
  have hstart : ∀ (v : View) (gi : Nat) (got : List (Nat × Nat)),
      (∀ c ∈ List.range N, c < N) ∧ ∀ c, c < N → c ∉ List.range N → CellRead log gi v.acq got c :=
    fun _ _ _ => ⟨fun c hc' => List.mem_range.1 hc', fun c hc' hn => absurd (List.mem_range.2 hc') hn⟩
  suffices h : _ ∧ _ from ⟨rStep_viewInv hR.view hcar pc pm, h.1, h.2⟩
  obtain ⟨rpc, view, cg, cache, gi, ai⟩ := r
  obtain ⟨hV, hacc, hP⟩ := hR
  have hv := hV.viewOk.2.2
  dsimp only at hv hacc hP
  cases rpc with
  | idle => exact ⟨hacc, hP⟩
  | version =>
    obtain ⟨m0, hm0, hl0⟩ := hL.has_version
    obtain ⟨j, m, _, _, _, _, heq, hcoh⟩ := load_ok hv hm0 hl0 a.rVersion pm
    simp only [rStep, heq]
    split <;> exact ⟨Nat.le_trans hacc (hcoh .gen), trivial⟩
  | gen1 =>
    obtain ⟨m0, hm0, hl0⟩ := hL.has_gen
    obtain ⟨j, m, hm, hl, hj, _, heq, hcoh⟩ := load_ok hv hm0 hl0 a.rGen1 pm
    simp only [rStep, heq]
    split
    · exact ⟨Nat.le_trans hacc (hcoh .gen), trivial⟩
    · next hcond =>
      have hev : m.val % 2 = 0 := by omega
      exact ⟨Nat.le_trans hacc (hcoh .gen),
        AttemptInv.start hm hl hev (by omega) hacq1 (hL.genCar ha j m hm hl hev) (Nat.le_trans hacc hj),
        hstart _ _ _⟩
  | copy g1 retries todo got =>
    obtain ⟨hA, htodo, hcells⟩ := hP
    simp only [rStep]
    split
    · next hpick =>
      rw [hafter]
      exact ⟨hacc, hA, fun c hc' => hcells c hc' (by simp [getElem?_min_none hpick])⟩
    · next c hpick =>
      obtain ⟨m0, hm0, hl0⟩ := hL.has_cell (htodo c (List.mem_of_getElem? hpick))
      obtain ⟨j, m, hm, hl, _, hadm, heq, hcoh⟩ := load_ok hv hm0 hl0 .relaxed pm
      simp only [heq]
      have hA' := hA.mono (loadView_cur_ge view (.cell c) .relaxed j m.carried) (hcoh .gen)
      have hcur := hA.2.2.2.1
      have hacq := loadView_acq view (.cell c) .relaxed j m.carried
      have hnew := forall_not_mem_rest hcells
        (P' := CellRead log gi (loadView view (.cell c) .relaxed j m.carried).acq ((c, m.val) :: got))
        ⟨j, m, hm, hl, by simp, by omega, fun k mk hk1 hk2 => hadm k mk hk1 (by omega)⟩
        (fun c' hcc ⟨j', m', h1, h2, h3, h4, h5⟩ =>
          ⟨j', m', h1, h2, by rw [List.find?_cons_of_neg (by simpa using Ne.symm hcc)]; exact h3, by omega, h5⟩)
      refine ⟨Nat.le_trans hacc (hcoh .gen), ?_⟩
      split
      · next hr =>
        rw [hafter]
        exact ⟨hA', fun c' hc' => hnew c' hc' (by simp [List.isEmpty_iff.1 hr])⟩
      · exact ⟨hA', fun c' hc' => htodo c' (List.mem_filter.1 hc').1, hnew⟩
  | fence g1 retries got =>
    obtain ⟨hA, hcells⟩ := hP
    simp only [rStep, hof, Option.getD_some, fenceAcq_of_acq view hofa]
    exact ⟨hacc, hA.mono (Nat.le_max_left _ _) (Nat.le_refl _),
      fun c hc' => (hcells c hc').mono (Nat.le_max_right _ _)⟩
  | gen2 g1 retries got =>
    obtain ⟨hA, hcells⟩ := hP
    have ⟨⟨mg, hmg, hlg, hvg⟩, _, _, _, hA5, hA6⟩ := hA
    obtain ⟨j, m, hm, hl, hj, _, heq, hcoh⟩ := load_ok hv hmg hlg a.rGen2 pm
    have hacc' := Nat.le_trans hacc (hcoh .gen)
    simp only [rStep, heq]
    by_cases hne : g1 = m.val
    · rw [if_pos hne]
      exact ⟨Nat.le_trans hA6 (hcoh .gen), trivial⟩
    · rw [if_neg hne]
      by_cases hk : retries ≤ 1
      · rw [if_pos hk]
        exact ⟨hacc', trivial⟩
      · rw [if_neg hk]
        refine ⟨hacc', ?_, hstart _ _ _⟩
        by_cases hev : m.val % 2 = 0
        · -- a new attempt starts from the message just read, which is not the old one
          simp only [hev, if_true]
          have hjgi : j ≠ gi := by
            rintro rfl
            rw [hmg, Option.some.injEq] at hm
            exact hne (hm ▸ hvg).symm
          have hgi := hL.gen_idx_ge hmg hlg
          exact AttemptInv.start hm hl hev (hL.genNz j m hm hl (by omega)) hacq2 (hL.genCar ha j m hm hl hev)
            (by omega)
        · simp only [hev, if_false]
          exact hA.mono (loadView_cur_ge view .gen a.rGen2 j m.carried) (hcoh .gen)

/-! ### stability of the reader invariant when the log grows -/

theorem CellRead.append {log : Log} {gi b : Nat} {got : List (Nat × Nat)} {c : Nat}
    (h : CellRead log gi b got c) (hgi : gi < log.length) (l : Log) : CellRead (log ++ l) gi b got c := by
  obtain ⟨j, m, h1, h2, h3, h4, h5⟩ := h
  refine ⟨j, m, getElem?_append_some h1, h2, h3, h4, fun k mk hk1 hk2 hmk => ?_⟩
  rw [List.getElem?_append_left (by omega)] at hmk
  exact h5 k mk hk1 hk2 hmk

theorem AttemptInv.append {log : Log} {v : View} {gi ai g1 : Nat} (h : AttemptInv log v gi ai g1) (l : Log) :
    AttemptInv (log ++ l) v gi ai g1 := by
  obtain ⟨⟨m, hm, hl, hv⟩, h2⟩ := h
  exact ⟨⟨m, getElem?_append_some hm, hl, hv⟩, h2⟩

theorem AttemptInv.lt {log : Log} {v : View} {gi ai g1 : Nat} (h : AttemptInv log v gi ai g1) :
    gi < log.length := by
  obtain ⟨⟨m, hm, _, _⟩, _⟩ := h; exact lt_length_of_getElem? hm

theorem RInv.append {log : Log} {r : Reader} (h : RInv log r) (l : Log) : RInv (log ++ l) r := by
  obtain ⟨rpc, view, cg, cache, gi, ai⟩ := r
  obtain ⟨hV, hacc, hP⟩ := h
  refine ⟨hV.append l, hacc, ?_⟩
  cases rpc with
  | idle | version | gen1 => trivial
  | copy g1 retries todo got => exact ⟨hP.1.append l, hP.2.1, fun c hc hn => (hP.2.2 c hc hn).append hP.1.lt l⟩
  | fence g1 retries got => exact ⟨hP.1.append l, fun c hc => (hP.2 c hc).append hP.1.lt l⟩
  | gen2 g1 retries got => exact ⟨hP.1.append l, fun c hc => (hP.2 c hc).append hP.1.lt l⟩

/-! ### the global invariant -/

structure Inv (a : Ann) (ver gen : Nat) (cells0 : List Nat) (s : Sys) : Prop where
  mem : MemInv s
  log : LogInv a ver gen cells0 s.log s.written
  wpc : WPcInv a s.log s.w s.written
  rd : a.adequate = true → RInv s.log s.r

theorem Inv.step {s t : Sys} (h : Inv a ver gen cells0 s) (hst : Step a s t) : Inv a ver gen cells0 t := by
  have hM := h.mem.step hst
  cases hst with
  | wNew hidle => exact ⟨hM, h.log, trivial, h.rd⟩
  | wWrite rec hidle hl =>
    exact ⟨hM, h.log.mono_written (fun r hr => List.mem_cons_of_mem _ hr), ⟨List.mem_cons_self, hl⟩, h.rd⟩
  | wStep pick hne =>
    obtain ⟨h1, h2⟩ := wStep_inv h.log s.w h.wpc pick
    obtain ⟨l, hl⟩ := wStep_log a s.log s.w pick
    exact ⟨hM, h1, h2, fun ha => hl ▸ (h.rd ha).append l⟩
  | wKill => exact ⟨hM, h.log, trivial, h.rd⟩
  | rOpen hidle => exact ⟨hM, h.log, h.wpc, fun _ => RInv.empty _⟩
  | rCall hidle => exact ⟨hM, h.log, h.wpc, fun ha => ⟨(h.rd ha).view, (h.rd ha).accCoh, trivial⟩⟩
  | rStep pc pm hne => exact ⟨hM, h.log, h.wpc, fun ha => rStep_inv h.log ha h.mem.carLe s.r (h.rd ha) pc pm⟩

theorem reachable_inv (hc : cells0.length = N) (hg : gen < 65536)
    {s : Sys} (hr : Reachable a (Sys.init ver gen cells0) s) : Inv a ver gen cells0 s := by
  induction hr with
  | refl => exact ⟨.init ver gen cells0, LogInv.init a ver gen hc hg, trivial, fun _ => RInv.empty _⟩
  | step _ hst ih => exact ih.step hst

/-! ### the potential argument -/

theorem LogInv.gen_pair (hL : LogInv a ver gen cells0 log written)
    {i j : Nat} {mi mj : Msg} (hi : log[i]? = some mi) (hj : log[j]? = some mj) (hij : i ≤ j)
    (hgi : mi.loc = .gen) (hgj : mj.loc = .gen) :
    phi mj.val = (phi mi.val + evenGenBetween log i j) % 32767 := by
  have h1 := hL.pot i mi hi hgi
  have h2 := hL.pot j mj hj hgj
  have h3 := eGB_add log (hL.gen_idx_ge hi hgi) hij
  have := phi_lt gen
  omega

theorem LogInv.equal_even_gen (hL : LogInv a ver gen cells0 log written)
    {i j : Nat} {mi mj : Msg} (hi : log[i]? = some mi) (hj : log[j]? = some mj) (hij : i ≤ j)
    (hgi : mi.loc = .gen) (hgj : mj.loc = .gen) (hev : mi.val % 2 = 0) (heq : mi.val = mj.val)
    (hfew : evenGenBetween log i j < 32767) : i = j := by
  apply Nat.le_antisymm hij
  apply Nat.le_of_not_lt
  intro hlt
  -- the count from `i` to `j` includes the even message at `j` itself, and is 0 mod 32767
  have hp := hL.gen_pair hi hj hij hgi hgj
  obtain ⟨j', rfl⟩ : ∃ j', j = j' + 1 := ⟨j - 1, by omega⟩
  rw [eGB_succ, if_pos ⟨hlt, isEG_iff.2 ⟨mj, hj, hgj, by omega⟩⟩] at hp hfew
  rw [heq] at hp
  have := phi_lt mj.val
  omega

/-- The reader's acceptance argument. The re-check read the message `g1Idx` itself or an older one
    (a later one with the same value is excluded by the potential). Had a copied cell come from a
    message after `g1Idx`, the odd generation before that cell message would lie after `g1Idx`, be
    carried by the cell message into the reader's view at the fence, and hide `g1Idx` from the re-check. -/
theorem accept_core (hL : LogInv a ver gen cells0 log written) (ha : a.adequate = true)
    {r : Reader} (hR : RInv log r) {g1 retries : Nat} {got : List (Nat × Nat)}
    (hpc : r.pc = .gen2 g1 retries got) (pm : Nat)
    (hacc : (load log r.view .gen a.rGen2 pm).1 = g1)
    (hnowrap : evenGenBetween log r.g1Idx (load log r.view .gen a.rGen2 pm).2.1 < 32767) :
    assemble got = pubCells log r.g1Idx ∧
      ∃ m, log[r.g1Idx]? = some m ∧ m.loc = .gen ∧ m.val = g1 ∧ g1 % 2 = 0 ∧ g1 ≠ 0 := by
  have hP := hR.pc
  rw [hpc] at hP
  obtain ⟨⟨⟨mg, hmg, hlg, hvg⟩, hA2, hA3, hA4, _, hA6⟩, hcells⟩ := hP
  obtain ⟨j2, m2, hm2, hl2, hcoh2, hadm2, heq, _⟩ := load_ok hR.view.viewOk.2.2 hmg hlg a.rGen2 pm
  rw [heq] at hacc hnowrap
  dsimp only at hacc hnowrap
  have hj2 : j2 = r.g1Idx :=
    (hL.equal_even_gen hmg hm2 (by omega) hlg hl2 (by omega) (by omega) hnowrap).symm
  refine ⟨(pubCells_eq_map fun c hcN => ?_).symm, mg, hmg, hlg, hvg, hA2, hA3⟩
  obtain ⟨j, m, hm, hl, hfind, hcar, hlast⟩ := hcells c hcN
  refine ⟨j, m, lastBefore_eq_some_iff.2 ⟨?_, ⟨m, hm, hl⟩, fun k mk hk1 hk2 => hlast k mk hk1 (by omega)⟩,
    hm, hfind.symm⟩
  apply Nat.lt_of_le_of_ne
  · apply Nat.le_of_not_lt
    intro hjgt
    obtain ⟨o, mo, ho, hmo, hodd, hfence⟩ := hL.cellOdd j m hm c hl (by have := hL.gen_idx_ge hmg hlg; omega)
    have ho1 := (lastBefore_eq_some_iff.1 ho).1
    have ho2 : r.g1Idx ≤ o := le_of_lastBefore ho hjgt hmg hlg
    have ho3 : r.g1Idx ≠ o := by
      rintro rfl
      rw [hmg, Option.some.injEq] at hmo
      subst hmo
      omega
    have := hfence ha
    exact hadm2 o mo (by omega) (by omega) hmo (loc_of_lastBefore ho hmo)
  · rintro rfl
    rw [hmg, Option.some.injEq] at hm
    rw [← hm, hlg] at hl
    cases hl

end

/-! ### what is returned and cached -/

def GoodRec (cells0 : List Nat) (written : List (List Nat)) (c : List Nat) : Prop :=
  c = zerosN ∨ c = cells0 ∨ c ∈ written

def CacheRel (log : Log) (r : Reader) : Prop :=
  (r.cacheGen = 0 ∧ r.cache = zerosN) ∨
  (r.cache = pubCells log r.acceptedIdx ∧
    ∃ m, log[r.acceptedIdx]? = some m ∧ m.loc = .gen ∧ m.val = r.cacheGen)

structure CInv (cells0 : List Nat) (s : Sys) : Prop where
  ret : ∀ c ∈ s.returned, GoodRec cells0 s.written c
  cache : GoodRec cells0 s.written s.r.cache
  rel : CacheRel s.log s.r

/-- no 16-bit wrap between the two generation reads of an attempt accepted in state `s` -/
def NoWrapAt (a : Ann) (s : Sys) : Prop :=
  ∀ g1 retries got pm, s.r.pc = .gen2 g1 retries got →
    (load s.log s.r.view .gen a.rGen2 pm).1 = g1 →
    evenGenBetween s.log s.r.g1Idx (load s.log s.r.view .gen a.rGen2 pm).2.1 < 32767

theorem GoodRec.mono {cells0 : List Nat} {w w' : List (List Nat)} {c : List Nat}
    (h : GoodRec cells0 w c) (hw : ∀ r, r ∈ w → r ∈ w') : GoodRec cells0 w' c :=
  h.imp id (fun h => h.imp id (hw _))

theorem CacheRel.append {log : Log} {r : Reader} (h : CacheRel log r) (l : Log) : CacheRel (log ++ l) r := by
  rcases h with h | ⟨h1, m, hm, h2⟩
  · exact Or.inl h
  · refine Or.inr ⟨?_, m, getElem?_append_some hm, h2⟩
    rw [pubCells_append (Nat.le_of_lt (lt_length_of_getElem? hm))]; exact h1

/-- What a step does to the log, to `written`, and to what the reader caches and returns: nothing
    (but perhaps serve the cache), a re-opened reader, or an accepted attempt. -/
theorem Step.effect {a : Ann} {s t : Sys} (hst : Step a s t) :
    (∃ l, t.log = s.log ++ l) ∧ (∀ rec, rec ∈ s.written → rec ∈ t.written) ∧
    ((t.r.cache = s.r.cache ∧ t.r.cacheGen = s.r.cacheGen ∧ t.r.acceptedIdx = s.r.acceptedIdx ∧
        (t.returned = s.returned ∨ t.returned = s.r.cache :: s.returned)) ∨
      (t.r = {} ∧ t.returned = s.returned) ∨
      (∃ g1 retries got pm, s.r.pc = .gen2 g1 retries got ∧ (load s.log s.r.view .gen a.rGen2 pm).1 = g1 ∧
        t.r.cache = assemble got ∧ t.r.cacheGen = g1 ∧ t.r.acceptedIdx = s.r.g1Idx ∧
        t.returned = assemble got :: s.returned)) := by
  have hnil : ∃ l, s.log = s.log ++ l := ⟨[], (List.append_nil _).symm⟩
  cases hst with
  | wNew | wKill | rCall => exact ⟨hnil, fun _ h => h, .inl ⟨rfl, rfl, rfl, .inl rfl⟩⟩
  | wWrite rec => exact ⟨hnil, fun _ h => List.mem_cons_of_mem _ h, .inl ⟨rfl, rfl, rfl, .inl rfl⟩⟩
  | wStep pick => exact ⟨wStep_log a s.log s.w pick, fun _ h => h, .inl ⟨rfl, rfl, rfl, .inl rfl⟩⟩
  | rOpen => exact ⟨hnil, fun _ h => h, .inr (.inl ⟨rfl, rfl⟩)⟩
  | rStep pc pm =>
    refine ⟨hnil, fun _ h => h, ?_⟩
    obtain ⟨log, w, ⟨rpc, view, cg, cache, gi, ai⟩, written, returned⟩ := s
    cases rpc with
    | idle | fence => left; simp [SL.rStep, returnedBy]
    | version | gen1 | copy =>
      left; simp only [SL.rStep]
      split <;> simp [returnedBy]
    | gen2 g1 retries got =>
      by_cases hacc : g1 = (load log view .gen a.rGen2 pm).1
      · right; right
        refine ⟨g1, retries, got, pm, rfl, hacc.symm, ?_⟩
        simp [SL.rStep, ← hacc, returnedBy]
      · left; simp only [SL.rStep, if_neg hacc]
        split <;> simp [returnedBy]

theorem CInv.step {a : Ann} {ver gen : Nat} {cells0 : List Nat}
    (ha : a.adequate = true) {s t : Sys} (hI : Inv a ver gen cells0 s) (h : CInv cells0 s)
    (hnw : NoWrapAt a s) (hst : Step a s t) : CInv cells0 t := by
  obtain ⟨⟨l, hl⟩, hw, hrd⟩ := hst.effect
  suffices h' : (∀ c ∈ t.returned, GoodRec cells0 t.written c) ∧ GoodRec cells0 t.written t.r.cache ∧
      CacheRel s.log t.r from ⟨h'.1, h'.2.1, hl ▸ h'.2.2.append l⟩
  have hret : ∀ c ∈ s.returned, GoodRec cells0 t.written c := fun c hc' => (h.ret c hc').mono hw
  unfold CacheRel
  rcases hrd with ⟨h1, h2, h3, h4⟩ | ⟨h1, h2⟩ | ⟨g1, retries, got, pm, hpc, hacc, h1, h2, h3, h4⟩
  · refine ⟨?_, h1 ▸ h.cache.mono hw, by rw [h1, h2, h3]; exact h.rel⟩
    rcases h4 with h4 | h4 <;> rw [h4]
    · exact hret
    · exact List.forall_mem_cons.2 ⟨h.cache.mono hw, hret⟩
  · rw [h1, h2]
    exact ⟨hret, Or.inl rfl, Or.inl ⟨rfl, rfl⟩⟩
  · obtain ⟨hass, m, hm, hlg, hv, hev, hnz⟩ :=
      accept_core hI.log ha (hI.rd ha) hpc pm hacc (hnw g1 retries got pm hpc hacc)
    have hgood : GoodRec cells0 t.written (assemble got) :=
      GoodRec.mono (hass ▸ Or.inr (hI.log.pub s.r.g1Idx m hm hlg (hv ▸ hev) (hv ▸ hnz))) hw
    rw [h1, h2, h3, h4]
    exact ⟨List.forall_mem_cons.2 ⟨hgood, hret⟩, hgood, Or.inr ⟨hass, m, hm, hlg, hv⟩⟩

theorem reachable_completed_le {a : Ann} {s t : Sys} (hr : Reachable a s t) :
    completedUpdates s.log ≤ completedUpdates t.log := by
  induction hr with
  | refl => exact Nat.le_refl _
  | step _ hst ih =>
    obtain ⟨l, hl⟩ := hst.effect.1
    exact Nat.le_trans ih (hl ▸ completedUpdates_append _ l)

/-- C02/C03 for the cache and the returned records, provided no accepted attempt in the history of `s`
    spanned a 16-bit wrap -/
theorem reachable_cinv {a : Ann} {ver gen : Nat} {cells0 : List Nat} (hc : cells0.length = N)
    (hg : gen < 65536) (ha : a.adequate = true)
    {s : Sys} (hr : Reachable a (Sys.init ver gen cells0) s)
    (hnw : ∀ t, Reachable a (Sys.init ver gen cells0) t → Reachable a t s → NoWrapAt a t) :
    CInv cells0 s := by
  induction hr with
  | refl => exact ⟨nofun, Or.inl rfl, Or.inl ⟨rfl, rfl⟩⟩
  | step hr' hst ih =>
    exact (ih fun t h1 h2 => hnw t h1 (h2.step hst)).step ha (reachable_inv hc hg hr')
      (hnw _ hr' (.step .refl hst)) hst

theorem reachable_cinv_few {a : Ann} {ver gen : Nat} {cells0 : List Nat} (hc : cells0.length = N)
    (hg : gen < 65536) (ha : a.adequate = true)
    {s : Sys} (hr : Reachable a (Sys.init ver gen cells0) s) (hfew : completedUpdates s.log < 32767) :
    CInv cells0 s :=
  reachable_cinv hc hg ha hr fun _ _ h2 _ _ _ _ _ _ =>
    Nat.lt_of_le_of_lt (eGB_le_completed _ _ _) (Nat.lt_of_le_of_lt (reachable_completed_le h2) hfew)

end ClockBound.SL

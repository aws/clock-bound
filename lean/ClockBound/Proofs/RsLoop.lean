/-
  Loops of the Rust-fragment interpreter: the equations that unfold one iteration, and the lemmas that
  turn a per-iteration fact into a fact about the whole loop with a SYMBOLIC number of iterations.

  Fuel discipline (see `Rs/Interp.lean`): `evalWhile (N+1)` evaluates the condition, the body and the rest
  of the loop with fuel `N`.  So if condition and body are evaluated correctly by every fuel `≥ d`
  (`d` = their nesting depth, a small constant), then `k` iterations followed by an exit need `k + d + 1`.
  A per-iteration fact is therefore stated for ALL fuels `N ≥ d`; it is proved by writing `N = M + d`
  (`obtain ⟨M, rfl⟩ := Nat.exists_eq_add_of_le' h`) and `simp only [rs_eval, rs_base, rs_code]`: the equations of the interpreter
  match `M + d` against `_ + 1` for a literal `d`.  Worked example: `Proofs/RsLoopDemo.lean`.
-/
import ClockBound.Proofs.RsEval
namespace ClockBound.Rs

/-! ### one iteration (the members of the simp set `rs_loop`, by name) -/

theorem eval_whileE (n ctx fr c body st) :
    eval (n + 1) ctx fr (.whileE c body) st = evalWhile n ctx fr c body st := by
  simp only [eval]

/-- `loop { body }` is `while true { body }` -/
theorem eval_loopE (n ctx fr body st) :
    eval (n + 1) ctx fr (.loopE body) st = evalWhile n ctx fr (.lit (.bool true)) body st := by
  simp only [eval]

theorem eval_forE (n ctx fr pat it body st) :
    eval (n + 1) ctx fr (.forE pat it body) st
    = (eval n ctx fr it st).bind fun iv st =>
        orStuck "for: no rule to iterate over this value" (iterItems iv) fun items =>
          evalFor n ctx fr pat body items st := by
  simp only [eval]

theorem evalWhile_succ (n ctx fr c body st) :
    evalWhile (n + 1) ctx fr c body st
    = (eval n ctx fr c st).bind fun vc st' =>
        match vc with
        | .bool b =>
          if b = true then
            ((evalBlock n ctx fr body st').popTo st.env.length).loopNext fun st'' => evalWhile n ctx fr c body st''
          else .val .unit (st'.popTo st.env.length)
        | _ => .stuck "while on a non-bool" := by
  simp only [evalWhile]
  rfl

/-- a loop whose condition holds (and has no effect): one run of the body, then the loop again -/
theorem evalWhile_true (n : Nat) (ctx : Ctx) (fr : Frame) (c : Expr) (body : List Stmt) (st : St)
    (h : eval n ctx fr c st = .val (.bool true) st) :
    evalWhile (n + 1) ctx fr c body st
    = ((evalBlock n ctx fr body st).popTo st.env.length).loopNext fun st'' => evalWhile n ctx fr c body st'' := by
  rw [evalWhile_succ, h]
  simp only [Res.bind_val, if_true]

/-- a loop whose condition is false (and has no effect) is over -/
theorem evalWhile_false (n : Nat) (ctx : Ctx) (fr : Frame) (c : Expr) (body : List Stmt) (st : St)
    (h : eval n ctx fr c st = .val (.bool false) st) :
    evalWhile (n + 1) ctx fr c body st = .val .unit (st.popTo st.env.length) := by
  rw [evalWhile_succ, h]
  simp only [Res.bind_val]
  rfl

theorem evalFor_nil (n ctx fr pat body st) : evalFor (n + 1) ctx fr pat body [] st = .val .unit st := by
  simp only [evalFor]

theorem evalFor_cons (n ctx fr pat body v rest st) :
    evalFor (n + 1) ctx fr pat body (v :: rest) st
    = orStuck "for: pattern without a rule" (matchPat n fr.selfTy pat v) fun (_, bs) =>
        ((evalBlock n ctx fr body { st with env := bs ++ st.env }).popTo st.env.length).loopNext
          fun st' => evalFor n ctx fr pat body rest st' := by
  simp only [evalFor]

/-! ### overflow checks under a symbolic number of iterations

  `simp only [rs_eval, rs_base, rs_code]` leaves `chkInt t v st` folded.  With the range facts as hypotheses this conditional
  rewrite discharges it (do NOT unfold `chkInt` in such a proof: rewriting inside the condition of its
  `if` makes the kernel compare `Decidable` instances by evaluating `Int.decLe` on terms like
  `4294967295 - (i + 1)`, which it does in unary). -/
theorem chkInt_ok (t : IntTy) (v : Int) (st : St) (h0 : t ≠ .infer) (hlo : t.lo ≤ v) (hhi : v ≤ t.hi) :
    chkInt t v st = .val (.int t v) st := by
  simp [chkInt, h0, hlo, hhi]

/-! ### the items of an integer range, one at a time -/

theorem intRange_nil (t : IntTy) (lo hi : Int) (h : hi ≤ lo) : intRange t lo hi = [] := by
  have : (hi - lo).toNat = 0 := by omega
  simp [intRange, this]

theorem intRange_cons (t : IntTy) (lo hi : Int) (h : lo < hi) :
    intRange t lo hi = .int t lo :: intRange t (lo + 1) hi := by
  unfold intRange
  have : (hi - lo).toNat = (hi - (lo + 1)).toNat + 1 := by omega
  rw [this, List.range_succ_eq_map, List.map_cons, List.map_map]
  congr 1
  · simp
  · apply List.map_congr_left
    intro k _
    simp only [Function.comp]
    congr 1
    push_cast
    omega

theorem intRange_length (t : IntTy) (lo hi : Int) : (intRange t lo hi).length = (hi - lo).toNat := by
  simp [intRange]

/-! ### `k` iterations of a `while`

  `S i` is the state at the start of iteration `i`, `C i` the state the condition leaves (`C = S` unless
  the condition binds variables — `while let` — or has effects).  `hc`/`hb` are the per-iteration facts.  What is left
  after `k` iterations is the same loop in `S k`, with `k` units of fuel less. -/
theorem evalWhile_skip {ctx : Ctx} {fr : Frame} {c : Expr} {body : List Stmt}
    (S C : Nat → St) (d k : Nat)
    (hc : ∀ i, i < k → ∀ N, d ≤ N → eval N ctx fr c (S i) = .val (.bool true) (C i))
    (hb : ∀ i, i < k → ∀ N, d ≤ N → ∀ next : St → Res,
      ((evalBlock N ctx fr body (C i)).popTo (S i).env.length).loopNext next = next (S (i + 1))) :
    ∀ N, d ≤ N → evalWhile (N + k) ctx fr c body (S 0) = evalWhile N ctx fr c body (S k) := by
  induction k with
  | zero => intro N _; rfl
  | succ k ih =>
    intro N hN
    rw [show N + (k + 1) = N + 1 + k by omega,
      ih (fun i hi => hc i (by omega)) (fun i hi => hb i (by omega)) (N + 1) (by omega),
      evalWhile_succ, hc k (by omega) N hN]
    simp only [Res.bind_val, if_true]
    exact hb k (by omega) N hN _

/-- `k` iterations, then an exit: `hx` describes what happens from `S k` on (the condition is false; or the body
    returns / breaks): it is a fact about ONE unfolding of the loop, provable by
    `simp only [evalWhile_succ, rs_eval, rs_base, rs_code]`. -/
theorem evalWhile_iterate {ctx : Ctx} {fr : Frame} {c : Expr} {body : List Stmt}
    (S C : Nat → St) (d k : Nat) (R : Res)
    (hc : ∀ i, i < k → ∀ N, d ≤ N → eval N ctx fr c (S i) = .val (.bool true) (C i))
    (hb : ∀ i, i < k → ∀ N, d ≤ N → ∀ next : St → Res,
      ((evalBlock N ctx fr body (C i)).popTo (S i).env.length).loopNext next = next (S (i + 1)))
    (hx : ∀ N, d ≤ N → evalWhile (N + 1) ctx fr c body (S k) = R) :
    ∀ N, k + d + 1 ≤ N → evalWhile N ctx fr c body (S 0) = R := by
  intro N hN
  obtain ⟨M, rfl⟩ : ∃ M, N = M + 1 + k := ⟨N - k - 1, by omega⟩
  rw [evalWhile_skip S C d k hc hb (M + 1) (by omega)]
  exact hx M (by omega)

/-- the common case: the condition has no effect and binds nothing, and the loop ends because the
    condition becomes false after `k` iterations; the loop evaluates to `()` in state `S k` -/
theorem evalWhile_count {ctx : Ctx} {fr : Frame} {c : Expr} {body : List Stmt}
    (S : Nat → St) (d k : Nat)
    (hc : ∀ i, i < k → ∀ N, d ≤ N → eval N ctx fr c (S i) = .val (.bool true) (S i))
    (hb : ∀ i, i < k → ∀ N, d ≤ N → ∀ next : St → Res,
      ((evalBlock N ctx fr body (S i)).popTo (S i).env.length).loopNext next = next (S (i + 1)))
    (hx : ∀ N, d ≤ N → eval N ctx fr c (S k) = .val (.bool false) (S k)) :
    ∀ N, k + d + 1 ≤ N → evalWhile N ctx fr c body (S 0) = .val .unit (S k) := by
  apply evalWhile_iterate S S d k _ hc hb
  intro N hN
  rw [evalWhile_false N _ _ _ _ _ (hx N hN)]
  simp [St.popTo]

/-! ### a `for` over a list of items

  `S i` is the state before item `i`; the per-item fact covers the binding of the pattern and the body. -/
theorem evalFor_iterate {ctx : Ctx} {fr : Frame} {pat : Pat} {body : List Stmt}
    (items : List Value) (S : Nat → St) (d : Nat)
    (hb : ∀ i (h : i < items.length), ∀ N, d ≤ N → ∀ next : St → Res,
      (orStuck "for: pattern without a rule" (matchPat N fr.selfTy pat items[i]) fun (_, bs) =>
        ((evalBlock N ctx fr body { S i with env := bs ++ (S i).env }).popTo (S i).env.length).loopNext next)
      = next (S (i + 1))) :
    ∀ N, items.length + d + 1 ≤ N → evalFor N ctx fr pat body items (S 0) = .val .unit (S items.length) := by
  induction items generalizing S with
  | nil =>
    intro N hN
    obtain ⟨M, rfl⟩ : ∃ M, N = M + 1 := ⟨N - 1, by omega⟩
    simp [evalFor_nil]
  | cons v rest ih =>
    intro N hN
    obtain ⟨M, rfl⟩ : ∃ M, N = M + 1 := ⟨N - 1, by simp at hN; omega⟩
    rw [evalFor_cons]
    have h0 := hb 0 (by simp) M (by simp at hN; omega)
    simp only [List.getElem_cons_zero] at h0
    rw [h0]
    have := ih (fun i => S (i + 1))
      (fun i h N hN next => by
        have := hb (i + 1) (by simp; omega) N hN next
        simpa using this)
      M (by simp at hN; omega)
    simpa using this

end ClockBound.Rs

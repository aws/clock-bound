/-
  Lemmas about the rational model of binary64 (`Model/F64.lean`). The shape everything rests on:
  for `x > 0`, `rnePos x = n · ulp x` with `ulp x = 2^(ilog2 x - 52)` the unit in the last place of
  the binade `[2^52·ulp x, 2^53·ulp x)` of `x`, and `n = roundHalfEven (x / ulp x) ∈ [2^52, 2^53]`.
  From it: relative error `2^-53`, monotonicity, exactness on `m·2^e` with `|m| ≤ 2^53`,
  idempotence; `rne53` is the odd extension of `rnePos`.
-/
import ClockBound.Model.F64
import Mathlib.Tactic.Linarith
import Mathlib.Tactic.Ring
import Mathlib.Tactic.Positivity
import Mathlib.Tactic.FieldSimp
import Mathlib.Tactic.NormNum
import Mathlib.Data.Rat.Floor
import Mathlib.Algebra.Order.Field.Power
import Mathlib.Data.Nat.Log

namespace ClockBound.F64

theorem pow2_eq (e : Int) : pow2 e = (2:ℚ) ^ e := by
  unfold pow2
  split_ifs with h
  · lift e to ℕ using h
    simp
  · obtain ⟨n, rfl⟩ : ∃ n : ℕ, e = -(n:ℤ) := ⟨(-e).toNat, by omega⟩
    simp [zpow_neg]

theorem log2_spec {n : ℕ} (h : n ≠ 0) : (2:ℚ) ^ (n.log2 : ℤ) ≤ n ∧ (n:ℚ) < 2 * 2 ^ (n.log2 : ℤ) := by
  rw [zpow_natCast, ← pow_succ']
  exact ⟨by exact_mod_cast Nat.log2_self_le h, by exact_mod_cast Nat.lt_log2_self⟩

theorem ilog2_spec (x : ℚ) (hx : 0 < x) : pow2 (ilog2 x) ≤ x ∧ x < pow2 (ilog2 x + 1) := by
  -- the numerator `N ∈ [2^a, 2·2^a)` and the denominator `D ∈ [2^b, 2·2^b)` put `x = N/D` in
  -- `(2^(a-b-1), 2^(a-b+1))`; the test in `ilog2` decides between the two binades
  obtain ⟨a1, a2⟩ := log2_spec (n := x.num.natAbs) (by simpa using hx.ne')
  obtain ⟨b1, b2⟩ := log2_spec x.den_nz
  have hxe : x * x.den = x.num.natAbs := by
    rw [Nat.cast_natAbs, abs_of_pos (Rat.num_pos.mpr hx)]
    exact_mod_cast Rat.mul_den_eq_num x
  unfold ilog2
  simp only [pow2_eq]
  generalize (x.num.natAbs.log2 : ℤ) = a at *
  generalize (x.den.log2 : ℤ) = b at *
  have hb : (0:ℚ) < 2 ^ b := by positivity
  have lo : (2:ℚ) ^ (a - b - 1) ≤ x := by
    rw [sub_sub, zpow_sub₀ two_ne_zero, zpow_add_one₀ two_ne_zero, div_le_iff₀ (by positivity)]
    linarith [mul_lt_mul_of_pos_left b2 hx]
  have hi : x < (2:ℚ) ^ (a - b + 1) := by
    rw [sub_add_eq_add_sub, zpow_sub₀ two_ne_zero, zpow_add_one₀ two_ne_zero, lt_div_iff₀ hb]
    linarith [mul_le_mul_of_nonneg_left b1 hx.le]
  split_ifs with h
  · exact ⟨h, hi⟩
  · rw [sub_add_cancel]
    exact ⟨lo, not_le.mp h⟩

/-! ### roundHalfEven -/

/-- `Int.lt_floor_add_one` about `y.floor`, as the model writes it (`rw` and `linarith` do not see
    through the library's `⌊y⌋`) -/
theorem lt_floor_add_one' (y : ℚ) : y < (y.floor : ℚ) + 1 := Int.lt_floor_add_one y

/-- the floor when the fraction is at most a half, the next integer when it is at least a half
    (which of the two at a tie does not matter below) -/
theorem rhe_cases (y : ℚ) :
    roundHalfEven y = y.floor ∧ y - y.floor ≤ 1/2 ∨
    roundHalfEven y = y.floor + 1 ∧ 1/2 ≤ y - y.floor := by
  unfold roundHalfEven; simp only []
  split_ifs with a b c
  · exact .inl ⟨rfl, a.le⟩
  · exact .inr ⟨rfl, b.le⟩
  · exact .inl ⟨rfl, not_lt.mp b⟩
  · exact .inr ⟨rfl, not_lt.mp a⟩

theorem rhe_err (y : ℚ) : |(roundHalfEven y : ℚ) - y| ≤ 1/2 := by
  rcases rhe_cases y with ⟨h, hr⟩ | ⟨h, hr⟩
  · rw [h, abs_sub_comm, abs_of_nonneg (sub_nonneg.mpr (Rat.floor_le y))]
    exact hr
  · rw [h, Int.cast_add, Int.cast_one, abs_of_nonneg (sub_nonneg.mpr (lt_floor_add_one' y).le)]
    linarith

theorem rhe_int (n : Int) : roundHalfEven (n : ℚ) = n := by
  unfold roundHalfEven; simp only [Rat.floor_intCast]; norm_num

/-- monotone, from the error bound alone: `a < b` gives `rhe a ≤ a + 1/2 < b + 1/2 ≤ rhe b + 1` -/
theorem rhe_mono {a b : ℚ} (h : a ≤ b) : roundHalfEven a ≤ roundHalfEven b := by
  rcases h.eq_or_lt with rfl | h
  · rfl
  · have ha := (abs_le.mp (rhe_err a)).2
    have hb := (abs_le.mp (rhe_err b)).1
    have : (roundHalfEven a : ℚ) < (roundHalfEven b + 1 : ℤ) := by push_cast; linarith
    exact Int.lt_add_one_iff.mp (by exact_mod_cast this)

/-! ### trunc / casts -/

theorem trunc_le_of_nonneg {a : ℚ} (h : 0 ≤ a) : (trunc a : ℚ) ≤ a ∧ a < (trunc a : ℚ) + 1 := by
  unfold trunc; rw [if_pos h]; exact ⟨Rat.floor_le a, lt_floor_add_one' a⟩

theorem trunc_mono {a b : ℚ} (h : a ≤ b) : trunc a ≤ trunc b := by
  unfold trunc
  split_ifs with ha hb hb
  · exact Rat.floor_monotone h
  · exfalso; linarith
  · have h1 : a.ceil ≤ 0 := by rw [Rat.ceil_le_iff]; push_cast; linarith
    have h2 : 0 ≤ b.floor := by rw [Rat.le_floor_iff]; push_cast; linarith
    omega
  · exact Rat.ceil_le_iff.mpr (h.trans Rat.le_ceil)

/-- `f64 as i64` truncates and saturates: a clamp of `trunc` -/
theorem castI64_eq_clamp (a : ℚ) :
    castI64 a = max (-9223372036854775808) (min 9223372036854775807 (trunc a)) := by
  unfold castI64 I64_MAX I64_MIN; simp only []
  split_ifs <;> omega

theorem castI64_mono {a b : ℚ} (h : a ≤ b) : castI64 a ≤ castI64 b := by
  have := trunc_mono h
  rw [castI64_eq_clamp, castI64_eq_clamp]
  omega

theorem castI64_range (a : ℚ) : I64_MIN ≤ castI64 a ∧ castI64 a ≤ I64_MAX := by
  rw [castI64_eq_clamp]
  unfold I64_MAX I64_MIN
  omega

theorem castI64_eq_floor {a : ℚ} (h0 : 0 ≤ a) (h1 : a < 9223372036854775808) : castI64 a = a.floor := by
  have h2 : 0 ≤ a.floor := by rw [Rat.le_floor_iff]; push_cast; linarith
  have h3 : a.floor < 9223372036854775808 := by rw [Rat.floor_lt_iff]; push_cast; linarith
  rw [castI64_eq_clamp, trunc, if_pos h0]
  omega

theorem castI64_intCast {n : Int} (h0 : -9223372036854775808 ≤ n) (h1 : n ≤ 9223372036854775807) :
    castI64 (n : ℚ) = n := by
  have ht : trunc (n : ℚ) = n := by unfold trunc; split <;> simp
  rw [castI64_eq_clamp, ht]
  omega

/-- `as u64` is the floor, clamped -/
theorem castU64_eq (x : ℚ) :
    castU64 x = if x.floor < 0 then 0 else if x.floor > 18446744073709551615 then 18446744073709551615 else x.floor := by
  unfold castU64 trunc U64_MAX
  simp only []
  by_cases hx : x ≥ 0
  · rw [if_pos hx]
    have : 0 ≤ x.floor := by rw [Rat.le_floor_iff]; exact_mod_cast hx
    split_ifs <;> omega
  · rw [if_neg hx]
    have hx' : x < 0 := not_le.mp hx
    have h1 : x.ceil ≤ 0 := by rw [Rat.ceil_le_iff]; exact_mod_cast hx'.le
    have h2 : x.floor < 0 := by rw [Rat.floor_lt_iff]; exact_mod_cast hx'
    split_ifs <;> omega

/-! ### chrony wire float -/

theorem chronyFloat_repr (w : Nat) : ∃ m e : Int, |m| ≤ 2^24 ∧ -89 ≤ e ∧ e ≤ 38 ∧ chronyFloat w = (m:ℚ) * (2:ℚ)^e := by
  unfold chronyFloat; simp only []
  refine ⟨_, _, abs_le.mpr ?_, ?_, ?_, by rw [pow2_eq]⟩
  all_goals split_ifs <;> omega

/-! ### rne53 -/

theorem rne53_zero : rne53 0 = 0 := by simp [rne53]

theorem rne53_of_pos {x : ℚ} (hx : 0 < x) : rne53 x = rnePos x := by
  unfold rne53; rw [if_neg hx.ne', if_pos hx]

theorem rne53_of_neg {x : ℚ} (hx : x < 0) : rne53 x = - rnePos (-x) := by
  unfold rne53; rw [if_neg hx.ne, if_neg (not_lt.mpr hx.le)]

theorem rne53_neg (x : ℚ) : rne53 (-x) = - rne53 x := by
  rcases lt_trichotomy x 0 with h | rfl | h
  · rw [rne53_of_neg h, rne53_of_pos (neg_pos.mpr h), neg_neg]
  · simp [rne53_zero]
  · rw [rne53_of_pos h, rne53_of_neg (neg_neg_of_pos h), neg_neg]

/-- the unit in the last place of the binade of `x`: the `ulp` of `rnePos` -/
def ulp (x : ℚ) : ℚ := pow2 (ilog2 x - 52)

theorem ulp_eq (x : ℚ) : ulp x = 2 ^ (ilog2 x - 52) := pow2_eq _

theorem ulp_pos (x : ℚ) : 0 < ulp x := by rw [ulp_eq]; positivity

theorem rnePos_eq (x : ℚ) : rnePos x = roundHalfEven (x / ulp x) * ulp x := rfl

/-- a positive `x` lies in the binade `[2^52·u, 2^53·u)` of its unit in the last place `u` -/
theorem ulp_spec {x : ℚ} (hx : 0 < x) : 2 ^ 52 * ulp x ≤ x ∧ x < 2 ^ 53 * ulp x := by
  obtain ⟨h1, h2⟩ := ilog2_spec x hx
  have e : (2:ℚ) ^ ilog2 x = 2 ^ 52 * ulp x := by
    rw [ulp_eq, ← zpow_natCast, ← zpow_add₀ two_ne_zero]; norm_num
  rw [pow2_eq, e] at h1
  rw [pow2_eq, zpow_add_one₀ two_ne_zero, e] at h2
  exact ⟨h1, by linarith⟩

/-- the significand `n` of `rnePos x = n·u` -/
theorem rhe_range {x : ℚ} (hx : 0 < x) :
    (2:ℤ)^52 ≤ roundHalfEven (x / ulp x) ∧ roundHalfEven (x / ulp x) ≤ (2:ℤ)^53 := by
  obtain ⟨h1, h2⟩ := ulp_spec hx
  constructor
  · have := rhe_mono (a := (((2:ℤ)^52 : ℤ) : ℚ))
      (by push_cast; exact (le_div_iff₀ (ulp_pos x)).mpr h1)
    rwa [rhe_int] at this
  · have := rhe_mono (b := (((2:ℤ)^53 : ℤ) : ℚ))
      (by push_cast; exact ((div_lt_iff₀ (ulp_pos x)).mpr h2).le)
    rwa [rhe_int] at this

theorem rnePos_range {x : ℚ} (hx : 0 < x) :
    2 ^ 52 * ulp x ≤ rnePos x ∧ rnePos x ≤ 2 ^ 53 * ulp x := by
  obtain ⟨h1, h2⟩ := rhe_range hx
  exact ⟨mul_le_mul_of_nonneg_right (by exact_mod_cast h1) (ulp_pos x).le,
    mul_le_mul_of_nonneg_right (by exact_mod_cast h2) (ulp_pos x).le⟩

theorem rne53_nonneg {x : ℚ} (hx : 0 ≤ x) : 0 ≤ rne53 x := by
  rcases hx.eq_or_lt with rfl | h
  · rw [rne53_zero]
  · rw [rne53_of_pos h]
    exact le_trans (mul_nonneg (by norm_num) (ulp_pos x).le) (rnePos_range h).1

theorem two_zpow_neg53 : (2:ℚ)^(-53:Int) = 1 / 2^53 := by
  rw [zpow_neg, one_div]; rfl

theorem rnePos_rel {x : ℚ} (hx : 0 < x) : |rnePos x - x| ≤ x * (2:ℚ)^(-53:Int) := by
  have hk := (ulp_spec hx).1
  have he := rhe_err (x / ulp x)
  have hu := ulp_pos x
  rw [rnePos_eq, two_zpow_neg53]
  -- `|n·u − x| = |n − x/u|·u ≤ u/2`, and `2^52·u ≤ x`
  calc |(roundHalfEven (x / ulp x) : ℚ) * ulp x - x|
      = |(roundHalfEven (x / ulp x) : ℚ) - x / ulp x| * ulp x := by
        rw [← abs_of_pos hu, ← abs_mul, abs_of_pos hu, sub_mul, div_mul_cancel₀ x hu.ne']
    _ ≤ 1 / 2 * ulp x := mul_le_mul_of_nonneg_right he hu.le
    _ ≤ x * (1 / 2 ^ 53) := by linarith

/-- relative error of one rounding -/
theorem rne53_rel (x : ℚ) : |rne53 x - x| ≤ |x| * (2:ℚ)^(-53:Int) := by
  rcases lt_trichotomy x 0 with h | rfl | h
  · rw [rne53_of_neg h, abs_of_neg h, ← abs_neg, neg_sub', neg_neg]
    exact rnePos_rel (neg_pos.mpr h)
  · simp [rne53_zero]
  · rw [rne53_of_pos h, abs_of_pos h]; exact rnePos_rel h

theorem ilog2_mono {x y : ℚ} (hx : 0 < x) (h : x ≤ y) : ilog2 x ≤ ilog2 y := by
  by_contra hc
  have h1 := (ilog2_spec x hx).1
  have h2 := (ilog2_spec y (hx.trans_le h)).2
  rw [pow2_eq] at h1 h2
  have := zpow_le_zpow_right₀ (one_le_two (α := ℚ)) (show ilog2 y + 1 ≤ ilog2 x by omega)
  linarith

theorem rnePos_mono {x y : ℚ} (hx : 0 < x) (h : x ≤ y) : rnePos x ≤ rnePos y := by
  rcases (ilog2_mono hx h).lt_or_eq with hlt | heq
  · -- different binades: the top of the lower one is at most the bottom of the higher one
    calc rnePos x ≤ 2 ^ 53 * ulp x := (rnePos_range hx).2
      _ = 2 ^ 52 * 2 ^ (ilog2 x - 52 + 1) := by rw [ulp_eq, zpow_add_one₀ two_ne_zero]; ring
      _ ≤ 2 ^ 52 * ulp y := by
        rw [ulp_eq]
        exact mul_le_mul_of_nonneg_left (zpow_le_zpow_right₀ one_le_two (by omega)) (by positivity)
      _ ≤ rnePos y := (rnePos_range (hx.trans_le h)).1
  · have hu : ulp x = ulp y := by unfold ulp; rw [heq]
    rw [rnePos_eq, rnePos_eq, hu]
    exact mul_le_mul_of_nonneg_right
      (by exact_mod_cast rhe_mono (div_le_div_of_nonneg_right h (ulp_pos y).le)) (ulp_pos y).le

theorem rne53_mono {x y : ℚ} (h : x ≤ y) : rne53 x ≤ rne53 y := by
  rcases lt_or_ge 0 x with hx | hx
  · rw [rne53_of_pos hx, rne53_of_pos (hx.trans_le h)]
    exact rnePos_mono hx h
  rcases lt_or_ge y 0 with hy | hy
  · rw [rne53_of_neg (h.trans_lt hy), rne53_of_neg hy]
    exact neg_le_neg (rnePos_mono (neg_pos.mpr hy) (neg_le_neg h))
  · have := rne53_nonneg (neg_nonneg.mpr hx)
    rw [rne53_neg] at this
    linarith [rne53_nonneg hy]

/-- `m·2^e` with `0 < m ≤ 2^53` is an integer multiple of its own unit in the last place -/
theorem rnePos_exact (m e : Int) (hm0 : 0 < m) (hm : m ≤ 2^53) :
    rnePos ((m:ℚ) * (2:ℚ)^e) = (m:ℚ) * (2:ℚ)^e := by
  have hmq : (0:ℚ) < m := by exact_mod_cast hm0
  have hx : (0:ℚ) < (m:ℚ) * (2:ℚ)^e := by positivity
  have h1 := (ulp_spec hx).1
  obtain ⟨n, hn⟩ : ∃ n : ℤ, (m:ℚ) * (2:ℚ)^e / ulp ((m:ℚ) * (2:ℚ)^e) = n := by
    rw [ulp_eq] at h1 ⊢
    generalize ilog2 ((m:ℚ) * (2:ℚ)^e) - 52 = k at *
    rcases le_or_gt k e with hk | hk
    · -- `m·2^(e-k)`
      obtain ⟨d, rfl⟩ := Int.le.dest hk
      exact ⟨m * 2 ^ d, by rw [zpow_add₀ two_ne_zero, zpow_natCast]; push_cast; field_simp⟩
    · -- `2^52·2^k ≤ m·2^e ≤ 2^53·2^(k-1)`: the bottom of the binade
      have h2 : (m:ℚ) * 2 ^ e ≤ 2 ^ 53 * 2 ^ (k - 1) :=
        mul_le_mul (by exact_mod_cast hm) (zpow_le_zpow_right₀ one_le_two (by omega))
          (by positivity) (by positivity)
      rw [zpow_sub_one₀ two_ne_zero] at h2
      exact ⟨2 ^ 52, by rw [div_eq_iff (by positivity)]; push_cast; linarith⟩
  rw [rnePos_eq, hn, rhe_int, ← hn, div_mul_cancel₀ _ (ulp_pos _).ne']

theorem rne53_exact_pos (m e : Int) (hm0 : 0 < m) (hm : m ≤ 2^53) :
    rne53 ((m:ℚ) * (2:ℚ)^e) = (m:ℚ) * (2:ℚ)^e := by
  have hmq : (0:ℚ) < m := by exact_mod_cast hm0
  rw [rne53_of_pos (by positivity)]
  exact rnePos_exact m e hm0 hm

/-- a value m·2^e with |m| ≤ 2^53 is a double: rounding leaves it unchanged -/
theorem rne53_exact (m e : Int) (hm : |m| ≤ 2^53) : rne53 ((m:ℚ) * (2:ℚ)^e) = (m:ℚ) * (2:ℚ)^e := by
  rw [abs_le] at hm
  rcases lt_trichotomy m 0 with h | rfl | h
  · have := rne53_exact_pos (-m) e (by omega) (by omega)
    rwa [Int.cast_neg, neg_mul, rne53_neg, neg_inj] at this
  · simp [rne53_zero]
  · exact rne53_exact_pos m e h hm.2

theorem rne53_int (n : Int) (hn : |n| ≤ 2^53) : rne53 (n:ℚ) = n := by
  simpa using rne53_exact n 0 hn

theorem rne53_natCast (n : ℕ) (h : n ≤ 2 ^ 53) : rne53 (n : ℚ) = n := by
  rw [← Int.cast_natCast, rne53_int]
  rw [abs_of_nonneg (by positivity)]
  exact_mod_cast h

/-- the result of rounding is itself of the form m·2^e with |m| ≤ 2^53 (so rounding is idempotent) -/
theorem rne53_repr (x : ℚ) : ∃ m e : Int, |m| ≤ 2^53 ∧ rne53 x = (m:ℚ) * (2:ℚ)^e := by
  have pos : ∀ x : ℚ, 0 < x → ∃ m e : Int, |m| ≤ 2^53 ∧ rne53 x = (m:ℚ) * (2:ℚ)^e := fun x hx =>
    ⟨_, _, abs_le.mpr ⟨by have := (rhe_range hx).1; omega, (rhe_range hx).2⟩,
      by rw [rne53_of_pos hx, rnePos_eq, ulp_eq]⟩
  rcases lt_trichotomy x 0 with h | rfl | h
  · obtain ⟨m, e, hm, he⟩ := pos (-x) (neg_pos.mpr h)
    exact ⟨-m, e, by rwa [abs_neg], by rw [← neg_neg x, rne53_neg, he, Int.cast_neg, neg_mul]⟩
  · exact ⟨0, 0, by norm_num, by simp [rne53_zero]⟩
  · exact pos x h

theorem rne53_idem (x : ℚ) : rne53 (rne53 x) = rne53 x := by
  obtain ⟨m, e, hm, he⟩ := rne53_repr x
  rw [he]; exact rne53_exact m e hm

end ClockBound.F64

open ClockBound.F64 in
#print axioms rne53_rel
open ClockBound.F64 in
#print axioms rne53_mono
open ClockBound.F64 in
#print axioms rne53_exact
open ClockBound.F64 in
#print axioms rne53_repr
open ClockBound.F64 in
#print axioms chronyFloat_repr
open ClockBound.F64 in
#print axioms castI64_mono


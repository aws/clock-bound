/-
  Common ground of the two worker loops (`RsThreadsPoller.lean`, `RsThreadsWriter.lean`): how a stretch of the input
  stream falls into the chunks that the trips through a loop read, the equation of a block (for `rw`), a function
  table without some keys, message shapes.
-/
import ClockBound.Proofs.RsThreadsBase
import ClockBound.Rs.EmbedWorkers

namespace ClockBound.Rs.ThreadsProof
open ClockBound ClockBound.Rs ClockBound.Generated ClockBound.Rs.DictThreads ClockBound.Rs.EmbedThreads
open ClockBound.Rs.EmbedWorkers ClockBound.Threads

theorem inputsAt_append (inp : Nat → Value) (p : Nat) (a b : List Value) :
    inputsAt inp p (a ++ b) ↔ inputsAt inp p a ∧ inputsAt inp (p + a.length) b := by
  induction a generalizing p with
  | nil => simp [inputsAt]
  | cons v l ih =>
    simp only [List.cons_append, inputsAt, ih, List.length_cons]
    have : p + 1 + l.length = p + (l.length + 1) := by omega
    rw [this, and_assoc]

/-- a prefix of the input stream made of `k` chunks: chunk `i` starts after the lengths of the chunks before it -/
theorem inputsAt_chunks (inp : Nat → Value) (p : Nat) (f : Nat → List Value) (before : Nat → Nat)
    (h0 : before 0 = 0) (hs : ∀ i, before (i + 1) = before i + (f i).length) (k : Nat) (rest : List Value)
    (h : inputsAt inp p ((List.range k).flatMap f ++ rest)) :
    (∀ i, i < k → inputsAt inp (p + before i) (f i)) ∧ inputsAt inp (p + before k) rest := by
  induction k generalizing rest with
  | zero => simpa [h0] using h
  | succ k ih =>
    rw [List.range_succ, List.flatMap_append, List.append_assoc] at h
    obtain ⟨h1, h2⟩ := ih _ h
    rw [List.flatMap_singleton, inputsAt_append] at h2
    refine ⟨fun i hi => ?_, by rw [hs, ← Nat.add_assoc]; exact h2.2⟩
    rcases Nat.lt_succ_iff_lt_or_eq.mp hi with hik | rfl
    · exact h1 i hik
    · exact h2.1

/-- a block `{ e1; rest.. }` evaluates `e1` and goes on with the rest from the state that leaves: the interpreter's
    equation, for `rw` (so that a fact about `e1`, stated for an arbitrary log and input position, is applied to
    whatever state the evaluation has reached) -/
theorem evalBlock_expr_cons (n : Nat) (ctx : Ctx) (fr : Frame) (e1 : Expr) (semi : Bool) (r : Stmt) (rs : List Stmt)
    (st : St) :
    evalBlock (n + 1) ctx fr (.expr e1 semi :: r :: rs) st
      = (eval n ctx fr e1 st).bind fun _ st => evalBlock n ctx fr (r :: rs) st := by
  simp only [evalBlock]

/-- looking a key up in a function table from which the keys `bad` were removed -/
theorem lookup_filter_keys (bad : List String) (l : List (String × FnDecl)) (k : String) :
    (l.filter fun p => !bad.contains p.1).lookup k = if bad.contains k then none else l.lookup k := by
  induction l with
  | nil => simp
  | cons a rest ih =>
    obtain ⟨ak, ad⟩ := a
    simp only [List.contains_eq_mem, decide_eq_true_eq] at ih ⊢
    by_cases hk : k = ak
    · subst hk
      by_cases hb : k ∈ bad <;> simp [hb, ih]
    · by_cases hb : ak ∈ bad <;> simp [List.lookup_cons, hb, beq_false_of_ne hk, ih]

/-- a message that is not `ThreadAbort` is another variant of `Message` -/
theorem value_nonAbort (m : RMsg) (h : m.isAbort = false) :
    ∃ name args, m.value = .enumv name args ∧ name ≠ "Message::ThreadAbort" := by
  cases m with
  | abort => simp [RMsg.isAbort] at h
  | noData n => cases n <;> exact ⟨_, _, rfl, by decide⟩
  | _ => exact ⟨_, _, rfl, by decide⟩

@[rs_eval] theorem ascribe_trackingValue (ty : String) (t : Tracking) :
    ascribe ty (trackingValue t) = some (trackingValue t) := rfl

end ClockBound.Rs.ThreadsProof

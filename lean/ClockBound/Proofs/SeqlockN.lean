/-
  The N-reader projection: every reader of an N-reader system, together with the shared parts, is a
  reachable state of the one-reader system, with exactly the records that reader was handed.
-/
import ClockBound.Model.SeqlockSysN
namespace ClockBound.SLN
open ClockBound ClockBound.SL

/-- a reachable one-reader state with the given shared parts, the given reader, and at least the
    given returned records -/
def Wit (a : Ann) (ver gen : Nat) (cells0 : List Nat) (log : Log) (w : Writer)
    (written : List (List Nat)) (r : Reader) (ret : List (List Nat)) : Prop :=
  ∃ t : Sys, Reachable a (Sys.init ver gen cells0) t ∧ t.log = log ∧ t.w = w ∧ t.written = written ∧
    t.r = r ∧ ∀ c ∈ ret, c ∈ t.returned

variable {a : Ann} {ver gen : Nat} {cells0 : List Nat}

theorem wit_nil {log w written r ret} (h : Wit a ver gen cells0 log w written r ret) :
    Wit a ver gen cells0 log w written r [] := by
  obtain ⟨t, ht, h1, h2, h3, h4, _⟩ := h
  exact ⟨t, ht, h1, h2, h3, h4, fun c hc => absurd hc List.not_mem_nil⟩

theorem getD_snoc_default {α} (l : List α) (d : α) (i : Nat) :
    (l ++ [d])[i]?.getD d = l[i]?.getD d := by
  grind

/-- The projection invariant. An index beyond the readers that have joined stands for a reader that
    has not yet attached: a new reader `{}` that was handed nothing, which is what `rJoin` appends. -/
structure InvN (a : Ann) (ver gen : Nat) (cells0 : List Nat) (s : SysN) : Prop where
  len : s.returned.length = s.rs.length
  each : ∀ i : Nat, Reachable a (Sys.init ver gen cells0)
    ⟨s.log, s.w, s.rs[i]?.getD {}, s.written, s.returned[i]?.getD []⟩

theorem set_getD_self {α} (l : List α) (d : α) (i : Nat) : setAt l i (l[i]?.getD d) = l := by
  apply List.ext_getElem?
  grind [setAt]

/-- reader `i` takes a step of the one-reader system -/
theorem InvN.setReader {s : SysN} (hI : InvN a ver gen cells0 s) {i : Nat} {r r' : Reader}
    {ret' : List (List Nat)} (hi : s.rs[i]? = some r)
    (hst : Step a ⟨s.log, s.w, r, s.written, s.returned[i]?.getD []⟩ ⟨s.log, s.w, r', s.written, ret'⟩) :
    InvN a ver gen cells0 { s with rs := setAt s.rs i r', returned := setAt s.returned i ret' } := by
  have hlt : i < s.rs.length := (List.getElem?_eq_some_iff.1 hi).1
  refine ⟨by simpa [setAt] using hI.len, fun j => ?_⟩
  have hj := hI.each j
  by_cases hij : i = j
  · subst hij
    rw [hi] at hj
    simpa [setAt, hlt, hI.len] using hj.step hst
  · simpa [setAt, List.getElem?_set_ne hij] using hj

theorem inv_step {s s' : SysN} (hI : InvN a ver gen cells0 s) (hs : StepN a s s') :
    InvN a ver gen cells0 s' := by
  cases hs with
  | wNew h => exact ⟨hI.len, fun i => (hI.each i).step (Step.wNew _ h)⟩
  | wWrite rec h hl => exact ⟨hI.len, fun i => (hI.each i).step (Step.wWrite _ rec h hl)⟩
  | wStep pick h => exact ⟨hI.len, fun i => (hI.each i).step (Step.wStep _ pick h)⟩
  | wKill => exact ⟨hI.len, fun i => (hI.each i).step (Step.wKill _)⟩
  | rJoin => exact ⟨by simp [hI.len], fun i => by simpa [getD_snoc_default] using hI.each i⟩
  | rOpen i r hi h => simpa [set_getD_self] using hI.setReader hi (Step.rOpen _ h)
  | rCall i r hi h => simpa [set_getD_self] using hI.setReader hi (Step.rCall _ h)
  | rStep i r hi pickCell pickMsg h =>
    have := hI.setReader hi (Step.rStep _ pickCell pickMsg h)
    cases hr : returnedBy (rStep a s.log r pickCell pickMsg).2.1 <;> simpa [hr, set_getD_self] using this

theorem InvN.wit {s : SysN} (hI : InvN a ver gen cells0 s) {i : Nat} {r : Reader}
    (hi : s.rs[i]? = some r) :
    Wit a ver gen cells0 s.log s.w s.written r (s.returned[i]?.getD []) := by
  have ht := hI.each i
  rw [hi] at ht
  exact ⟨_, ht, rfl, rfl, rfl, rfl, fun _ h => h⟩

theorem inv_reachable {s : SysN} (hr : ReachableN a (SysN.init ver gen cells0) s) :
    InvN a ver gen cells0 s := by
  induction hr with
  | refl => exact ⟨rfl, fun _ => Reachable.refl⟩
  | step _ hs ih => exact inv_step ih hs

end ClockBound.SLN

/-
  `computeBoundAt` on inputs in range, for C05, C06, C12, C14 and C01: the drift-growth term against
  the exact product (`Rounded`: relative error through a chain of roundings), and the closed form
  of the call (no step of the `TimeSpec` and `i64` arithmetic can fail there).
-/
import ClockBound.Model.Oracles
import ClockBound.Proofs.Time
import ClockBound.Proofs.F64
namespace ClockBound
open TimeSpec

/-! ### the drift-growth term -/

/-- `growth` written out: three roundings and one truncating cast. -/
theorem growth_eq (age : Int) (drift : Nat) :
    growth age drift =
      F64.castI64 (F64.rne53 (F64.rne53 (F64.rne53 (age : ℚ) / 1000000000) *
        F64.rne53 (((drift : Int) : ℚ)))) := rfl

/-- one rounding of a non-negative value: relative error at most `2^-53` each way -/
theorem rne53_bounds_nonneg {x : ℚ} (hx : 0 ≤ x) :
    x * (1 - 1 / 2 ^ 53) ≤ F64.rne53 x ∧ F64.rne53 x ≤ x * (1 + 1 / 2 ^ 53) := by
  have h := F64.rne53_rel x
  rw [abs_of_nonneg hx, F64.two_zpow_neg53, abs_le] at h
  constructor
  · rw [mul_sub, mul_one, sub_eq_add_neg]
    exact le_sub_iff_add_le'.mp h.1
  · rw [mul_add, mul_one]
    exact sub_le_iff_le_add'.mp h.2

/-- `v` approximates the exact value `E ≥ 0` after at most `j` roundings to double, all
    intermediate results being non-negative: relative error `(1 ± 2^-53)^j`. -/
def Rounded (j : ℕ) (E v : ℚ) : Prop :=
  0 ≤ E ∧ E * (1 - 1 / 2 ^ 53) ^ j ≤ v ∧ v ≤ E * (1 + 1 / 2 ^ 53) ^ j

theorem Rounded.exact {E : ℚ} (h : 0 ≤ E) : Rounded 0 E E := ⟨h, by simp, by simp⟩

theorem Rounded.round {j : ℕ} {E v : ℚ} (h : Rounded j E v) : Rounded (j + 1) E (F64.rne53 v) := by
  obtain ⟨h0, hl, hu⟩ := h
  have hv : 0 ≤ v := le_trans (mul_nonneg h0 (pow_nonneg (by norm_num) j)) hl
  obtain ⟨l, u⟩ := rne53_bounds_nonneg hv
  refine ⟨h0, ?_, ?_⟩
  · rw [pow_succ, ← mul_assoc]
    exact (mul_le_mul_of_nonneg_right hl (by norm_num)).trans l
  · rw [pow_succ, ← mul_assoc]
    exact u.trans (mul_le_mul_of_nonneg_right hu (by norm_num))

theorem Rounded.mul {j : ℕ} {E v k : ℚ} (h : Rounded j E v) (hk : 0 ≤ k) :
    Rounded j (E * k) (v * k) := by
  obtain ⟨h0, hl, hu⟩ := h
  refine ⟨mul_nonneg h0 hk, ?_, ?_⟩
  · rw [mul_right_comm]
    exact mul_le_mul_of_nonneg_right hl hk
  · rw [mul_right_comm]
    exact mul_le_mul_of_nonneg_right hu hk

theorem Rounded.div {j : ℕ} {E v k : ℚ} (h : Rounded j E v) (hk : 0 ≤ k) :
    Rounded j (E / k) (v / k) := by
  simpa only [div_eq_mul_inv] using h.mul (inv_nonneg.mpr hk)

/-- adding an exact non-negative term only improves the relative error -/
theorem Rounded.add {j : ℕ} {E v o : ℚ} (h : Rounded j E v) (ho : 0 ≤ o) :
    Rounded j (E + o) (v + o) := by
  obtain ⟨h0, hl, hu⟩ := h
  have l : o * (1 - 1 / 2 ^ 53) ^ j ≤ o :=
    mul_le_of_le_one_right ho (pow_le_one₀ (by norm_num) (by norm_num))
  have u : o ≤ o * (1 + 1 / 2 ^ 53) ^ j := le_mul_of_one_le_right ho (one_le_pow₀ (by norm_num))
  refine ⟨add_nonneg h0 ho, ?_, ?_⟩
  · rw [add_mul]
    exact add_le_add hl l
  · rw [add_mul]
    exact add_le_add hu u

/-- three roundings stay within `2^-51` -/
theorem Rounded.three {E v : ℚ} (h : Rounded 3 E v) :
    0 ≤ v ∧ E * (1 - 1 / 2 ^ 51) ≤ v ∧ v ≤ E * (1 + 1 / 2 ^ 51) := by
  obtain ⟨h0, hl, hu⟩ := h
  have l : E * (1 - 1 / 2 ^ 51) ≤ E * (1 - 1 / 2 ^ 53) ^ 3 :=
    mul_le_mul_of_nonneg_left (by norm_num) h0
  have u : E * (1 + 1 / 2 ^ 53) ^ 3 ≤ E * (1 + 1 / 2 ^ 51) :=
    mul_le_mul_of_nonneg_left (by norm_num) h0
  exact ⟨le_trans (mul_nonneg h0 (by norm_num)) (le_trans l hl), le_trans l hl, le_trans hu u⟩

theorem growth_mono_aux (a1 a2 : Int) (drift : Nat) (h : a1 ≤ a2) :
    growth a1 drift ≤ growth a2 drift := by
  rw [growth_eq, growth_eq]
  apply F64.castI64_mono
  apply F64.rne53_mono
  apply mul_le_mul_of_nonneg_right
  · apply F64.rne53_mono
    apply div_le_div_of_nonneg_right _ (by norm_num)
    apply F64.rne53_mono
    exact_mod_cast h
  · apply F64.rne53_nonneg
    positivity

theorem growth_zero (drift : Nat) : growth 0 drift = 0 := by
  rw [growth_eq]
  simp only [Int.cast_zero, F64.rne53_zero, zero_div, zero_mul]
  exact_mod_cast F64.castI64_intCast (n := 0) (by omega) (by omega)

theorem growth_nonneg {age : Int} (drift : Nat) (ha : 0 ≤ age) : 0 ≤ growth age drift :=
  le_of_eq_of_le (growth_zero drift).symm (growth_mono_aux 0 age drift ha)

/-- the drift rate is below one: the exact product is at most the age -/
theorem exactGrowth_le {age : Int} {drift : Nat} (ha : 0 ≤ age) (hd : drift < 1000000000) :
    (drift : ℚ) * (age : ℚ) / 1000000000 ≤ (age : ℚ) := by
  have haq : (0 : ℚ) ≤ (age : ℚ) := by exact_mod_cast ha
  have hdq : (drift : ℚ) ≤ 1000000000 := by exact_mod_cast hd.le
  rw [mul_comm]
  exact div_le_of_le_mul₀ (by norm_num) haq (mul_le_mul_of_nonneg_left hdq haq)

/-- `P(1 − 2^-51) − 1 < growth ≤ P(1 + 2^-51)` for the exact product `P = drift·age/10^9`:
    three roundings, and a truncation that cannot saturate -/
theorem growth_bounds_aux (age : Int) (drift : Nat) (ha : 0 ≤ age) (ha2 : age ≤ 4300000000000000000)
    (hd : drift < 1000000000) :
    (drift : ℚ) * (age : ℚ) / 1000000000 * (1 - 1 / 2 ^ 51) - 1 < (growth age drift : ℚ) ∧
    (growth age drift : ℚ) ≤ (drift : ℚ) * (age : ℚ) / 1000000000 * (1 + 1 / 2 ^ 51) := by
  have haq : (0 : ℚ) ≤ (age : ℚ) := by exact_mod_cast ha
  have haq2 : (age : ℚ) ≤ 4300000000000000000 := by exact_mod_cast ha2
  -- `age`, rounded, divided by `10^9`, rounded, multiplied by `drift` (a double), rounded
  obtain ⟨c0, cl, cu⟩ := ((((Rounded.exact haq).round.div (k := 1000000000) (by norm_num)).round.mul
    (k := (drift : ℚ)) (by positivity)).round).three
  rw [show (age : ℚ) / 1000000000 * (drift : ℚ) = (drift : ℚ) * (age : ℚ) / 1000000000 by ring] at cl cu
  -- the rounded product stays below `2^63`, so the cast is the floor
  rw [growth_eq, Int.cast_natCast, F64.rne53_natCast drift (by omega), F64.castI64_eq_floor c0
    (by linarith only [cu, haq2, exactGrowth_le ha hd])]
  exact ⟨sub_lt_iff_lt_add.mpr (lt_of_le_of_lt cl (F64.lt_floor_add_one' _)),
    le_trans (Rat.floor_le _) cu⟩

/-- growth stays below `4.31·10^18` on the ages that can occur -/
theorem growth_range (age : Int) (drift : Nat) (ha : 0 ≤ age) (ha2 : age ≤ 4300000000000000000)
    (hd : drift < 1000000000) :
    0 ≤ growth age drift ∧ growth age drift ≤ 4310000000000000000 := by
  have haq2 : (age : ℚ) ≤ 4300000000000000000 := by exact_mod_cast ha2
  have : (growth age drift : ℚ) ≤ 4310000000000000000 := by
    linarith only [haq2, (growth_bounds_aux age drift ha ha2 hd).2, exactGrowth_le ha hd]
  exact ⟨growth_nonneg drift ha, by exact_mod_cast this⟩

/-- up to an age of 1000 s the rounding error stays below `2^-11` ns -/
theorem growth_covers {age : Int} {drift : Nat} (ha : 0 ≤ age) (ha2 : age < 1000000000000)
    (hd : drift < 1000000000) :
    (drift : ℚ) * (age : ℚ) / 1000000000 - 1 - 1 / 2048 ≤ (growth age drift : ℚ) := by
  have haq2 : (age : ℚ) < 1000000000000 := by exact_mod_cast ha2
  linarith only [haq2, (growth_bounds_aux age drift ha (by omega) hd).1, exactGrowth_le ha hd]

/-! ### ranges of meaningful inputs -/

/-- every oracle is true outside its range: `if !applicable then true else ..` -/
theorem holds_of_applicable {a b : Bool} (h : a = true → b = true) :
    (if !a then true else b) = true := by
  cases a
  · rfl
  · exact h rfl

theorem inRange_spec {t : TimeSpec} (h : t.inRange = true) :
    t.Valid ∧ -2147483648000000000 ≤ t.toNs ∧ t.toNs ≤ 2147483648999999999 := by
  simp only [TimeSpec.inRange, decide_eq_true_eq] at h
  unfold Valid normalized toNs
  unfold NANOS at *
  omega

/-- What the closed form of `computeBoundAt` needs of its input: `ClientIn.meaningful` without the
    range of void-after, which the call only compares with the monotonic reading. -/
structure ClientIn.InRange (x : ClientIn) : Prop where
  asOf : x.r.asOf.inRange = true
  void : x.r.voidAfter.normalized
  real : x.real.inRange = true
  mono : x.mono.inRange = true
  bound : 0 ≤ x.r.bound ∧ x.r.bound < 1152921504606846976

theorem meaningful_spec {x : ClientIn} (h : x.meaningful = true) : x.InRange := by
  simp only [ClientIn.meaningful, Bool.and_eq_true, decide_eq_true_eq] at h
  obtain ⟨⟨⟨⟨h1, h2⟩, h3⟩, h4⟩, h5⟩ := h
  exact ⟨h1, (inRange_spec h2).1.1, h3, h4, h5⟩

/-- the same input with a different monotonic reading -/
theorem meaningful_withMono {x : ClientIn} (h : x.meaningful = true) {m : TimeSpec}
    (hm : m.inRange = true) : (⟨x.r, x.real, m⟩ : ClientIn).meaningful = true := by
  simp only [ClientIn.meaningful, Bool.and_eq_true, decide_eq_true_eq] at h ⊢
  exact ⟨⟨h.1.1, hm⟩, h.2⟩

theorem age_eq_max (x : ClientIn) : x.age = max 0 (x.mono.toNs - x.r.asOf.toNs) := by
  unfold ClientIn.age; simp only []; split <;> omega

theorem age_nonneg (x : ClientIn) : 0 ≤ x.age := by
  rw [age_eq_max]; omega

theorem age_le (x : ClientIn) (h : x.InRange) : x.age ≤ 4300000000000000000 := by
  obtain ⟨_, a1, a2⟩ := inRange_spec h.asOf
  obtain ⟨_, m1, m2⟩ := inRange_spec h.mono
  rw [age_eq_max]; omega

/-! ### the reported status -/

/-- `expected` as one table: a stored `unknown` stays; any other status is kept while fresh,
    then degraded to `freeRunning` until void-after, then to `unknown` -/
theorem C06.expected_eq (x : ClientIn) : C06.expected x =
    if x.r.status = .unknown then .unknown
    else if x.mono.toNs < x.r.asOf.toNs + 5000000000 then x.r.status
    else if x.mono.toNs < x.r.voidAfter.toNs then .freeRunning else .unknown := by
  unfold C06.expected
  cases x.r.status <;> rfl

/-- the status of an `ok` outcome is the one `clientStatus` computes (no range needed) -/
theorem computeBoundAt_ok_status {r : Record} {real mono e l : TimeSpec} {st : Status}
    (h : computeBoundAt r real mono = .ok e l st) : clientStatus r mono = some st := by
  unfold computeBoundAt at h
  split at h
  · cases h
  · cases hs : clientStatus r mono with
    | none => simp [hs] at h
    | some st' =>
      simp only [hs] at h
      repeat' split at h
      all_goals cases h
      rfl

/-- so a record stored as Unknown is reported as Unknown, whatever the readings -/
theorem computeBoundAt_unknown {r : Record} {real mono e l : TimeSpec} {st : Status}
    (hu : r.status = .unknown) (h : computeBoundAt r real mono = .ok e l st) : st = .unknown := by
  have hs := computeBoundAt_ok_status h
  unfold clientStatus at hs
  rw [hu] at hs
  exact (Option.some.inj hs).symm

theorem clientStatus_eq (x : ClientIn) (h : x.InRange) :
    clientStatus x.r x.mono = some (C06.expected x) := by
  obtain ⟨av, a1, a2⟩ := inRange_spec h.asOf
  obtain ⟨mv, _, _⟩ := inRange_spec h.mono
  have gv : GRACE.Valid := by unfold Valid; decide
  have gns : GRACE.toNs = 5000000000 := rfl
  unfold clientStatus C06.expected
  cases x.r.status
  · rfl
  all_goals simp only [add_eq av gv (by omega), lt_iff mv.1 (ofNs_normalized _), lt_iff mv.1 h.void,
    ofNs_toNs, gns, apply_ite some]

/-! ### closed form of `computeBoundAt` -/

/-- In range the call is total and has the closed form: malformed / causality / an interval
    centred on the realtime reading with half-width `bound + growth age drift` and the status
    `C06.expected`. -/
theorem computeBoundAt_closed (x : ClientIn) (h : x.InRange) :
    computeBoundAt x.r x.real x.mono =
      if x.r.drift ≥ 1000000000 then .malformed
      else if x.mono.toNs ≤ x.r.asOf.toNs - 1000 then .causality
      else .ok (ofNs (x.real.toNs - (x.r.bound + growth x.age x.r.drift)))
        (ofNs (x.real.toNs + (x.r.bound + growth x.age x.r.drift))) (C06.expected x) := by
  unfold computeBoundAt
  by_cases hd : x.r.drift ≥ 1000000000
  · rw [if_pos hd, if_pos hd]
  obtain ⟨hb0, hb1⟩ := h.bound
  obtain ⟨av, a1, a2⟩ := inRange_spec h.asOf
  obtain ⟨rv, r1, r2⟩ := inRange_spec h.real
  obtain ⟨mv, m1, m2⟩ := inRange_spec h.mono
  have bv : BLUR.Valid := by unfold Valid; decide
  have bns : BLUR.toNs = 1000 := rfl
  rw [if_neg hd, if_neg hd, clientStatus_eq x h, sub_eq av bv (by omega)]
  simp only [le_iff av.1 mv.1, lt_iff (ofNs_normalized _) mv.1, ofNs_toNs, bns]
  by_cases hc : x.mono.toNs ≤ x.r.asOf.toNs - 1000
  · rw [if_pos hc, if_neg (by omega), if_neg (by omega)]
  -- the age of the record: a difference, or zero inside the blur window
  have hdur : (if x.r.asOf.toNs ≤ x.mono.toNs then some (x.mono.sub x.r.asOf)
      else if x.r.asOf.toNs - 1000 < x.mono.toNs then some (some (⟨0, 0⟩ : TimeSpec)) else none)
      = some (some (ofNs x.age)) := by
    rw [age_eq_max]
    by_cases c : x.r.asOf.toNs ≤ x.mono.toNs
    · rw [if_pos c, sub_eq mv av (by omega), max_eq_right (by omega)]
    · rw [if_neg c, if_pos (by omega), max_eq_left (by omega)]; rfl
  have a0 := age_nonneg x
  have a1 := age_le x h
  -- the half-width and the two ends
  obtain ⟨g0, g1⟩ := growth_range x.age x.r.drift a0 a1 (by omega)
  have wv := Valid.ofNs (n := x.r.bound + growth x.age x.r.drift) (by omega)
  have wns := ofNs_toNs (x.r.bound + growth x.age x.r.drift)
  rw [if_neg hc, hdur]
  simp only [(Valid.ofNs (n := x.age) (by omega)).numNanoseconds, ofNs_toNs]
  rw [chk_some (by omega)]
  simp only [nanoseconds_eq (n := x.r.bound + growth x.age x.r.drift) (by omega),
    sub_eq rv wv (by omega), add_eq rv wv (by omega), wns]

/-- what an `ok` outcome looks like -/
theorem ok_closed (x : ClientIn) (h : x.InRange) (e l : TimeSpec) (st : Status)
    (hout : computeBoundAt x.r x.real x.mono = .ok e l st) :
    x.r.drift < 1000000000 ∧ x.r.asOf.toNs - 1000 < x.mono.toNs ∧ st = C06.expected x ∧
    e.toNs = x.real.toNs - (x.r.bound + growth x.age x.r.drift) ∧
    l.toNs = x.real.toNs + (x.r.bound + growth x.age x.r.drift) ∧
    e.normalized ∧ l.normalized ∧ 0 ≤ growth x.age x.r.drift := by
  rw [computeBoundAt_closed x h] at hout
  split_ifs at hout with hd hc
  cases hout
  exact ⟨by omega, by omega, rfl, ofNs_toNs _, ofNs_toNs _, ofNs_normalized _, ofNs_normalized _,
    growth_nonneg _ (age_nonneg x)⟩

/-- same bound and drift rate, an older record: the interval is at least as wide, on either side -/
theorem width_mono {x y : ClientIn} (hx : x.meaningful = true) (hy : y.meaningful = true)
    (hb : y.r.bound = x.r.bound) (hd : y.r.drift = x.r.drift)
    (ha : x.mono.toNs - x.r.asOf.toNs ≤ y.mono.toNs - y.r.asOf.toNs)
    {e1 l1 e2 l2 : TimeSpec} {s1 s2 : Status}
    (o1 : computeBoundAt x.r x.real x.mono = .ok e1 l1 s1)
    (o2 : computeBoundAt y.r y.real y.mono = .ok e2 l2 s2) :
    l1.toNs - x.real.toNs ≤ l2.toNs - y.real.toNs ∧
    x.real.toNs - e1.toNs ≤ y.real.toNs - e2.toNs := by
  obtain ⟨-, -, -, he1, hl1, -⟩ := ok_closed x (meaningful_spec hx) e1 l1 s1 o1
  obtain ⟨-, -, -, he2, hl2, -⟩ := ok_closed y (meaningful_spec hy) e2 l2 s2 o2
  have := growth_mono_aux x.age y.age x.r.drift
    (by rw [age_eq_max, age_eq_max]; exact max_le_max (le_refl 0) ha)
  rw [hb, hd] at he2 hl2
  omega

end ClockBound

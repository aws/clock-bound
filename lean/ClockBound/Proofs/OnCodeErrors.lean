/-
  Helper lemmas for `Properties/OnCodeErrors.lean` / `Properties/OnCodeOpen.lean` (the properties C14, C16, C17
  stated about the source of the two client libraries):
  * the open functions on a reader that is a STRUCT value (what the interpreted `ShmReader::new` returns:
    `EmbedShm.freshReaderValue`), where `CodeTieErrors.rust_open_eq` / `ffi_open_eq` name the reader by an opaque
    handle: the reader is only moved, both are instances of `rust_open_ok_decl` / `ffi_open_ok` (`Proofs/RsErrorsOpen.lean`);
  * `recodeResult`: the groups `Shm` and `Errors` represent two library types differently
    (`errno::Errno(e)`: `.ext "Errno" [e]` vs the 1-tuple `[e]`; the `&'static CStr` origin: `.str o` vs
    `cstr (.str o)`); `recodeResult` maps a `Result<_, ShmError>` of the former representation to the latter.
-/
import ClockBound.Proofs.RsErrorsOpen
import ClockBound.Rs.EmbedShm
namespace ClockBound.Rs.ErrorsProof
open ClockBound ClockBound.Rs ClockBound.Generated ClockBound.Rs.DictErrors ClockBound.Rs.EmbedErrors

theorem rust_open_ok_struct (inp : Nat → Value) (path : String) (fs : List (String × Value))
    (hs : path.contains (Char.ofNat 0) = false) (h0 : inp 0 = .enumv "Ok" [.struct "ShmReader" fs]) :
    run (ctxE inp) "ClockBoundClient::new_with_path" .unit [.str path]
    = .ok (.enumv "Ok" [clientOf (.struct "ShmReader" fs)]) .unit [evOpen (cstr (.str path)) (inp 0)] :=
  run_of_call (by simp only [rs_eval, rs_base, rs_code]) (rust_open_ok_decl 100 inp path _ hs h0)

theorem ffi_open_ok_struct (inp : Nat → Value) (path : Value) (errNull : Bool) (fs : List (String × Value))
    (h0 : inp 0 = .enumv "Ok" [.struct "ShmReader" fs]) :
    run (ctxE inp) "ffi_lib::clockbound_open" .unit [cptr path, errArg errNull]
    = .ok (heapPtr (ctxOf (ffiErrValue ⟨.none, 0, none⟩) (.struct "ShmReader" fs))) .unit [evOpen (cstr path) (inp 0)] :=
  ffi_open_ok inp path errNull _ h0

/-! ### the two representations of `ShmError` -/

/-- `ShmError` of the group `Shm` (`EmbedShm.shmErrValue`) ↦ the same value as the group `Errors` writes it -/
def recodeErr : Value → Value
  | .enumv "ShmError::SyscallError" [.ext "Errno" [e], .str o] => .enumv "ShmError::SyscallError" [.tuple [e], cstr (.str o)]
  | v => v

/-- `Result<T, ShmError>`: the error recoded, `Ok(_)` unchanged -/
def recodeResult : Value → Value
  | .enumv "Err" [e] => .enumv "Err" [recodeErr e]
  | v => v

theorem recodeErr_shmErrValue (e : ShmErr) : recodeErr (EmbedShm.shmErrValue e) = shmErrorValue e.full := by
  cases e <;> simp [recodeErr, EmbedShm.shmErrValue, DictShm.errnoValue, shmErrorValue, ShmErr.full, errnoValue, cstr]

theorem recodeResult_openValue (r : Except ShmErr Header) :
    recodeResult (EmbedShm.openValue r) =
      (match r with
       | .ok h => .enumv "Ok" [EmbedShm.freshReaderValue h.segsize]
       | .error e => .enumv "Err" [shmErrorValue e.full]) := by
  cases r with
  | ok h => simp [recodeResult, EmbedShm.openValue]
  | error e => simp [recodeResult, EmbedShm.openValue, recodeErr_shmErrValue]

end ClockBound.Rs.ErrorsProof

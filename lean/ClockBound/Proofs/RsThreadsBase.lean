/-
  Common ground of the `Threads` translation-tie proofs: the dictionary's definitions as members of `rs_eval` and
  every rule of its `call` / `method` as an equation, small facts about the embedded values, and `evalWhile_skip`
  (skip `k` iterations of a loop, leaving the rest of the loop to be evaluated where the state is concrete).
-/
import ClockBound.Proofs.RsLoop
import ClockBound.Generated.Code
import ClockBound.Rs.EmbedThreads
namespace ClockBound.Rs.ThreadsProof
open ClockBound ClockBound.Rs ClockBound.Generated ClockBound.Rs.DictThreads ClockBound.Rs.EmbedThreads
open ClockBound.Threads

/-! the dictionary stays folded (`DictThreads.ext`); its hooks are reached through these projections -/
@[rs_eval] theorem ext_call : DictThreads.ext.call = DictThreads.call := rfl
@[rs_eval] theorem ext_method : DictThreads.ext.method = DictThreads.method := rfl
@[rs_eval] theorem ext_path : DictThreads.ext.path = DictThreads.path := rfl
@[rs_eval] theorem ext_macroCall : DictThreads.ext.macroCall = DictThreads.macroCall := rfl
@[rs_eval] theorem ext_refMut : DictThreads.ext.refMut = DictThreads.refMut := rfl
@[rs_eval] theorem ext_deref (w v st) : DictThreads.ext.deref w v st = none := rfl
@[rs_eval] theorem ext_fieldOf (v n) : DictThreads.ext.fieldOf v n = none := rfl
@[rs_eval] theorem ext_cast (w t v st) : DictThreads.ext.cast w t v st = none := rfl
@[rs_eval] theorem ext_litFallback : DictThreads.ext.litFallback = none := rfl
@[rs_eval] theorem ext_errFrom (r v) : DictThreads.ext.errFrom r v = none := rfl

-- calls of functions that declare a `&mut T` parameter (`take_mailbox(mailbox: &mut MailBox<..>, ..)` once it is
-- factored out): the core's by-reference call rule, whose equations each group registers for itself
rs_register_eqns callDeclRef

attribute [rs_eval] DictThreads.path DictThreads.refMut
  DictThreads.ask DictThreads.askDone DictThreads.macroCall DictThreads.hmGet DictThreads.hashMapValue DictThreads.rxValue DictThreads.txValue
  DictThreads.mailboxValue DictThreads.chanValue

/-! ### the rules of `DictThreads.call` and `DictThreads.method`, one equation each

  The two functions are not unfolded: that puts a `match` of 15 resp. 21 arms on strings before `simp`, whose
  conditional equations take ~20 s to derive.  The dictionary is consulted last (`firstRule`), so a call it has no
  rule for is stuck whether or not `simp` can see that. -/
section
variable (w : Inputs) (st : St)
@[rs_eval] theorem call_channel_web (ids) :
    DictThreads.call w "channels::new_channel_web<ChannelId,Message>" [ids] st = ask w st (evChannelWeb ids) := rfl
@[rs_eval] theorem call_spawn (t) :
    DictThreads.call w "spawn" [.ext "thunk" t] st = ask w st (evSpawn (.ext "thunk" t)) := rfl
@[rs_eval] theorem call_thread_spawn (t) :
    DictThreads.call w "thread::spawn" [.ext "thunk" t] st = ask w st (evSpawn (.ext "thunk" t)) := rfl
@[rs_eval] theorem call_panicking : DictThreads.call w "panicking" [] st = ask w st evPanicking := rfl
@[rs_eval] theorem call_thread_panicking :
    DictThreads.call w "thread::panicking" [] st = ask w st evPanicking := rfl
@[rs_eval] theorem call_vec_new : DictThreads.call w "Vec::new" [] st = some (.val (.list []) st) := rfl
@[rs_eval] theorem call_send_error (m) :
    DictThreads.call w "mpsc::SendError" [m] st = some (.val (.struct "SendError" [("0", m)]) st) := rfl
@[rs_eval] theorem call_from_millis (t ms) :
    DictThreads.call w "Duration::from_millis" [.int t ms] st
      = if (t = .u64 ∨ t = .infer) ∧ 0 ≤ ms then some (.val (.duration (ms * 1000000)) st) else none := rfl
@[rs_eval] theorem call_instant_now :
    DictThreads.call w "Instant::now" [] st = ask w st (evOp "Instant::now" []) := rfl
@[rs_eval] theorem call_clock_gettime (clk) :
    DictThreads.call w "clock_gettime_safe" [clk] st = ask w st (evOp "clock_gettime_safe" [clk]) := rfl
@[rs_eval] theorem call_path_new (s) :
    DictThreads.call w "Path::new" [.str s] st = some (.val (.ext "Path" [.str s]) st) := rfl
@[rs_eval] theorem call_break (v) :
    DictThreads.call w "ControlFlow::Break" [v] st = some (.val (.enumv "ControlFlow::Break" [v]) st) := rfl
@[rs_eval] theorem call_continue (v) :
    DictThreads.call w "ControlFlow::Continue" [v] st = some (.val (.enumv "ControlFlow::Continue" [v]) st) := rfl
@[rs_eval] theorem call_writer_new (p) :
    DictThreads.call w "ShmWriter::new" [p] st = ask w st (evOp "ShmWriter::new" [p]) := rfl
@[rs_eval] theorem method_get_mailbox (id) :
    DictThreads.method w (.ext "MailBox" []) "get_mailbox" [id] st = ask w st (evGetMailbox id) := rfl
@[rs_eval] theorem method_hm_get (es o k) :
    DictThreads.method w (.ext "HashMap" [.list es, .list o]) "get" [k] st = (hmGet es k).map fun r => .val r st := rfl
@[rs_eval] theorem method_hm_keys (es o) :
    DictThreads.method w (.ext "HashMap" [.list es, .list o]) "keys" [] st = some (.val (.list o) st) := rfl
@[rs_eval] theorem method_send (c m) :
    DictThreads.method w (.ext "Sender" [c]) "send" [m] st = ask w st (evSend c m) := rfl
@[rs_eval] theorem method_recv (c) : DictThreads.method w (.ext "Receiver" [c]) "recv" [] st = ask w st (evRecv c) := rfl
@[rs_eval] theorem method_recv_timeout (c d) :
    DictThreads.method w (.ext "Receiver" [c]) "recv_timeout" [d] st = ask w st (evRecvTimeout c d) := rfl
@[rs_eval] theorem method_join (h) :
    DictThreads.method w (.ext "JoinHandle" h) "join" [] st = ask w st (evJoin (.ext "JoinHandle" h)) := rfl
@[rs_eval] theorem method_clone_box (fs) :
    DictThreads.method w (.struct "DispatchBox" fs) "clone" [] st = some (.val (.struct "DispatchBox" fs) st) := rfl
@[rs_eval] theorem method_clone_main :
    DictThreads.method w (.enumv "ChannelId::MainThread" []) "clone" [] st
      = some (.val (.enumv "ChannelId::MainThread" []) st) := rfl
@[rs_eval] theorem method_clone_poller :
    DictThreads.method w (.enumv "ChannelId::ClockErrorBoundPoller" []) "clone" [] st
      = some (.val (.enumv "ChannelId::ClockErrorBoundPoller" []) st) := rfl
@[rs_eval] theorem method_clone_writer :
    DictThreads.method w (.enumv "ChannelId::ShmWriter" []) "clone" [] st
      = some (.val (.enumv "ChannelId::ShmWriter" []) st) := rfl
/-- the three together, for a proof that keeps `chanValue c` folded -/
@[rs_eval] theorem method_clone_chan (w) (c : Thread) :
    DictThreads.method w (chanValue c) "clone" [] st = some (.val (chanValue c) st) := by cases c <;> rfl
@[rs_eval] theorem method_break_is_break (v) :
    DictThreads.method w (.enumv "ControlFlow::Break" [v]) "is_break" [] st = some (.val (.bool true) st) := rfl
@[rs_eval] theorem method_continue_is_break (v) :
    DictThreads.method w (.enumv "ControlFlow::Continue" [v]) "is_break" [] st = some (.val (.bool false) st) := rfl
@[rs_eval] theorem method_break_is_continue (v) :
    DictThreads.method w (.enumv "ControlFlow::Break" [v]) "is_continue" [] st = some (.val (.bool false) st) := rfl
@[rs_eval] theorem method_continue_is_continue (v) :
    DictThreads.method w (.enumv "ControlFlow::Continue" [v]) "is_continue" [] st = some (.val (.bool true) st) := rfl
@[rs_eval] theorem method_get_tracking (fs) :
    DictThreads.method w (.struct "ClockErrorBoundPoller" fs) "get_tracking" [] st
      = ask w st (evOp "get_tracking" []) := rfl
@[rs_eval] theorem method_grace (fs) :
    DictThreads.method w (.struct "ClockErrorBoundPoller" fs) "is_within_grace_period" [] st
      = ask w st (evOp "is_within_grace_period" []) := rfl
@[rs_eval] theorem method_checked_sub (i d) :
    DictThreads.method w (.ext "Instant" i) "checked_sub" [d] st
      = ask w st (evOp "Instant::checked_sub" [.ext "Instant" i, d]) := rfl
@[rs_eval] theorem method_clock_update (fs args) :
    DictThreads.method w (.struct "ShmUpdater" fs) "process_clock_update" args st
      = askDone w st (evOp "process_clock_update" args) := rfl
@[rs_eval] theorem method_missing_update (fs args) :
    DictThreads.method w (.struct "ShmUpdater" fs) "process_missing_clock_update" args st
      = askDone w st (evOp "process_missing_clock_update" args) := rfl
end

/-- the six iteration orders -/
theorem isOrder_cases {ks : List Thread} (h : isOrder ks = true) :
    ks = [.main, .poller, .writer] ∨ ks = [.main, .writer, .poller] ∨ ks = [.poller, .main, .writer] ∨
    ks = [.poller, .writer, .main] ∨ ks = [.writer, .main, .poller] ∨ ks = [.writer, .poller, .main] := by
  rcases ks with _ | ⟨a, _ | ⟨b, _ | ⟨c, _ | _⟩⟩⟩ <;> try (simp [isOrder] at h)
  cases a <;> cases b <;> cases c <;> simp_all

/-- a send result never is an untyped integer literal: declared types leave it alone -/
@[rs_eval] theorem ascribe_sendResult (ty : String) (ok : Bool) (m : Value) :
    ascribe ty (sendResult ok m) = some (sendResult ok m) := by cases ok <;> rfl

@[rs_eval] theorem ascribe_joinResult (ty : String) (ok : Bool) :
    ascribe ty (joinResult ok) = some (joinResult ok) := by cases ok <;> rfl

@[rs_eval] theorem ascribe_phcValue (ty : String) (p : Option (Nat × Value)) :
    ascribe ty (phcValue p) = some (phcValue p) := by rcases p with _ | ⟨r, q⟩ <;> rfl

/-- a message that is not a notice is a `Message` variant other than `ThreadTerminate` / `ThreadPanic` -/
theorem value_nonNotice (m : RMsg) (h : m.isNotice = false) :
    ∃ name args, m.value = .enumv name args ∧ name ≠ "Message::ThreadTerminate" ∧ name ≠ "Message::ThreadPanic" := by
  cases m with
  | terminate c | panic c => simp [RMsg.isNotice] at h
  | noData n => cases n <;> exact ⟨_, _, rfl, by decide, by decide⟩
  | _ => exact ⟨_, _, rfl, by decide, by decide⟩

/-- `k` iterations of a `while` in the environment of `st`: iteration `i` starts with the events `E i` appended to
    the log and `P i` inputs consumed; what is left is the same loop after `E k`, `P k`, with `k` units of fuel
    less (to be evaluated where the state is concrete) -/
theorem evalWhile_skip {ctx : Ctx} {fr : Frame} {c : Expr} {body : List Stmt}
    (st : St) (E : Nat → List Value) (P : Nat → Nat) (d k : Nat) (hE : E 0 = []) (hP : P 0 = 0)
    (hc : ∀ i, i < k → ∀ N, d ≤ N →
      eval N ctx fr c ⟨st.env, st.log ++ E i, st.pos + P i⟩ = .val (.bool true) ⟨st.env, st.log ++ E i, st.pos + P i⟩)
    (hb : ∀ i, i < k → ∀ N, d ≤ N → ∀ next : St → Res,
      ((evalBlock N ctx fr body ⟨st.env, st.log ++ E i, st.pos + P i⟩).popTo st.env.length).loopNext next
        = next ⟨st.env, st.log ++ E (i + 1), st.pos + P (i + 1)⟩) :
    ∀ N, d ≤ N → evalWhile (N + k) ctx fr c body st
      = evalWhile N ctx fr c body ⟨st.env, st.log ++ E k, st.pos + P k⟩ := by
  have := Rs.evalWhile_skip (fun i => ⟨st.env, st.log ++ E i, st.pos + P i⟩) (fun i => ⟨st.env, st.log ++ E i, st.pos + P i⟩)
    d k hc hb
  simpa [hE, hP] using this

/-- body of the first top-level `loop { .. }` statement of a function body -/
def findLoop : List Stmt → Option (List Stmt)
  | [] => none
  | s :: rest =>
    match s with
    | .expr (.loopE b) _ => some b
    | _ => findLoop rest

end ClockBound.Rs.ThreadsProof

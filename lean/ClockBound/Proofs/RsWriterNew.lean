/-
  `ShmWriter::new` (statement in `Properties/CodeTieWriterNew.lean`): the events and answers of its stages, then the
  function and its callees, each evaluated once per path: a lemma per callee about `callDecl` from an ARBITRARY
  interpreter state (`HeaderProof.returns`, as in `Proofs/RsHeader.lean`), used as a pre-rule (`↓`) where the caller is
  evaluated.  In order: `mmap_segment_at`, `wipe`, `is_usable_segment` (given what its callee `ShmReader::new` does), then
  `new` itself (`segment_size` by `HeaderProof.segment_size_call`).  `Proofs/RsWriterNewFinal.lean` puts in the states of
  the path and compares the state-changing events with `Crash.newOps`.
-/
import ClockBound.Proofs.RsReaderNew
namespace ClockBound.Rs.WriterNewProof
open ClockBound ClockBound.Rs ClockBound.Generated ClockBound.Rs.DictShm ClockBound.Rs.EmbedShm
open ClockBound.Rs.HeaderProof (hctx returns)

/-- the events of a successful `wipe` (`hasParent`: `create_dir_all` comes first) -/
def wipeEvents (path parent : Value) (hasParent : Bool) : List Value :=
  (if hasParent then [evFs "create_dir_all" [parent] okUnit] else []) ++
  [evFs "create" [path] (.enumv "Ok" [fileObj]),
   evFs "write_u32" [.int .u32 1095588430] okUnit, evFs "write_u32" [.int .u32 1128399360] okUnit,
   evFs "write_u32" [.int .u32 72] okUnit, evFs "write_u16" [.int .u16 0] okUnit, evFs "write_u16" [.int .u16 0] okUnit,
   evFs "write_all" [.int .usize 56] okUnit, evFs "stream_position" [] (.enumv "Ok" [.int .u64 72]),
   evFs "sync_all" [] okUnit]

/-- the events of `mmap_segment_at` -/
def mapEvents (path : Value) (fd : Nat) : List Value :=
  [evFs "open" [path, .ext "nix" [.str "O_RDWR"], .ext "Mode" [.int .infer 420]] (.enumv "Ok" [.int .i32 fd]),
   evFs "mmap" [.int .usize 72, .int .i32 fd] (.enumv "Ok" [addr "segment"])]

/-- the decision of `ShmReader::new` on a regular file: what `read` returned, the header in the buffer -/
def openDecision (ret : Int) (h : Header) : Except ShmErr Header :=
  match readProg ret 0 h with
  | .error e => .error e
  | .ok h => mapProg false 0 h

/-- `Result<(), ShmError>` of `is_usable_segment` -/
def usableValue : Except ShmErr Header → Value
  | .ok _ => okUnit
  | .error e => .enumv "Err" [shmErrValue e]

/-- the final store through the mapping, with the memory ordering `ov` (a Rust value) -/
def versionStore (ov : Value) : Value := evStore (.str "version") (.int .u16 1) ov

/-- what `newAnswers` lists between the open path and `mmap_segment_at`: for a usable segment the file length
    (`fs::metadata`) and, if it is shorter than the segment, the open-for-write and `set_len`; else `wipe` -/
def fixAnswers (hasParent : Bool) (f : Crash.FileA) : List Value :=
  if f.usable then
    [.enumv "Ok" [.ext "Metadata" [.int .u64 f.len]]] ++
    (if f.len < SEGMENT_SIZE then [.enumv "Ok" [fileObj], okUnit] else [])
  else wipeAnswers hasParent

/-- … and the events of these operations -/
def fixEvents (path parent : Value) (hasParent : Bool) (f : Crash.FileA) : List Value :=
  if f.usable then
    evFs "metadata" [path] (.enumv "Ok" [.ext "Metadata" [.int .u64 f.len]]) ::
    (if f.len < SEGMENT_SIZE then
      [evFs "open_write" [path] (.enumv "Ok" [fileObj]), evFs "set_len" [.int .u64 SEGMENT_SIZE] okUnit] else [])
  else wipeEvents path parent hasParent

open scoped ClockBound.Rs.CallByValue

/-- `mmap_segment_at(path, 72)`: `nix::fcntl::open` and `mmap` succeed -/
theorem mmap_call (inp : Nat → Value) (parent : String) (fd : Nat) (N : Nat) (st : St)
    (hin : Answers inp st.pos [.enumv "Ok" [.int .i32 fd], .enumv "Ok" [addr "segment"]]) :
    callDecl (N + 60) (hctx inp) Code.fn_ShmWriter__mmap_segment_at .unit [pathObj "shm" parent, .int .usize 72] st
    = returns st (.enumv "Ok" [addr "segment"]) (mapEvents (pathObj "shm" parent) fd) 2 := by
  simp only [Answers, and_true] at hin
  simp -implicitDefEqProofs only [rs_eval, rs_base, rs_code, Nat.add_assoc, hin, returns, mapEvents, evFs]

/-- `wipe(path, 72)`, every operation succeeding (the answers `wipeAnswers`): `create_dir_all(parent)` first iff
    the path has a parent directory -/
theorem wipe_call (inp : Nat → Value) (parent : String) (N : Nat) (st : St)
    (hin : Answers inp st.pos (wipeAnswers (parent != ""))) :
    callDecl (N + 60) (hctx inp) Code.fn_ShmWriter__wipe .unit [pathObj "shm" parent, .int .usize 72] st
    = returns st okUnit (wipeEvents (pathObj "shm" parent) (pathObj parent "") (parent != ""))
        (wipeAnswers (parent != "")).length := by
  -- one script for both cases of `parent = ""`.  `callDeclRef`: the path by which a helper that gets the file handle as
  -- `&mut file` is entered (a source that splits `wipe` so); the source as it is does not use it
  generalize hb : (parent != "") = b at hin ⊢
  have hp : parent = "" ↔ b = false := by simp [← hb]
  cases b <;>
  · simp only [wipeAnswers, if_true, if_false, Bool.false_eq_true, reduceCtorEq, iff_true, iff_false, List.cons_append,
      List.nil_append, Answers, Nat.add_assoc, Nat.reduceAdd, and_true] at hin hp
    simp -implicitDefEqProofs only [rs_eval, rs_base, rs_code, okUnit, fileObj, SEGMENT_SIZE, EmbedShm.sizes, chkInt,
      HEADER_SIZE, RECORD_SIZE, Nat.add_assoc, hin, hp, returns, wipeAnswers, wipeEvents, evFs, callDeclRef]

/-- `is_usable_segment(path)` from the state `st`, given what its callee `ShmReader::new` does from the position of `st`
    in the input stream (it decides `d`, logging `evs` and consuming `k` answers): it returns that decision without the
    reader, and adds nothing -/
theorem usable_of_new (inp : Nat → Value) (parent : String) (d : Except ShmErr Header) (evs : List Value) (k : Nat)
    (st : St) (hn : ∀ N (s : St), s.pos = st.pos → callDecl (N + 80) (hctx inp) Code.fn_ShmReader__new .unit [cstrValue] s
      = returns s (openValue d) evs k) (N : Nat) :
    callDecl (N + 120) (hctx inp) Code.fn_ShmWriter__is_usable_segment .unit [pathObj "shm" parent] st
    = returns st (usableValue d) evs k := by
  simp only [returns, cstrValue] at hn ⊢
  simp only [pathObj]
  cases d <;>
  · simp only [openValue] at hn
    simp -implicitDefEqProofs only [rs_eval, rs_base, rs_code, ↓hn, usableValue, okUnit]

/-- `ShmWriter::new(path)` itself, given what `is_usable_segment` answers at the start of the input stream (`d`, after
    the `k` inputs and the events `evs`): an unusable segment is wiped, a usable one shorter than the segment grown in
    place (`set_len`); then the file is mapped and the version stored through the mapping, with whatever memory ordering
    `ov` the source names -/
theorem new_run (inp : Nat → Value) (parent : String) (fd : Nat) (f : Crash.FileA) (d : Except ShmErr Header)
    (hd : f.usable = true ↔ ∃ h, d = .ok h) (evs : List Value) (k : Nat)
    (husable : ∀ N (s : St), s.pos = 0 → callDecl (N + 120) (hctx inp) Code.fn_ShmWriter__is_usable_segment .unit
        [pathObj "shm" parent] s = returns s (usableValue d) evs k)
    (hfix : Answers inp k (fixAnswers (parent != "") f))
    (hmap : Answers inp (k + (fixAnswers (parent != "") f).length) [.enumv "Ok" [.int .i32 fd], .enumv "Ok" [addr "segment"]]) :
    ∃ ov, run (hctx inp) "ShmWriter::new" .unit [pathObj "shm" parent]
        = .ok (.enumv "Ok" [writerValue SEGMENT_SIZE]) .unit
            (evs ++ fixEvents (pathObj "shm" parent) (pathObj parent "") (parent != "") f ++
              mapEvents (pathObj "shm" parent) fd ++ [versionStore ov]) ∧
      (ordOfValue ov).isSome = true := by
  have hseg := fun N st => HeaderProof.segment_size_call inp N st
  have hmap := fun N (s : St) (hs : s.pos = k + (fixAnswers (parent != "") f).length) =>
    mmap_call inp parent fd N s (hs ▸ hmap)
  simp only [returns] at husable hmap
  rcases d with e | h
  · -- unusable: `wipe`
    have hu : f.usable = false := by simpa using hd
    simp only [fixAnswers, hu, Bool.false_eq_true, if_false] at hfix hmap
    have hwipe := fun N (s : St) (hs : s.pos = k) => wipe_call inp parent N s (hs ▸ hfix)
    simp only [returns, pathObj] at husable hwipe hmap ⊢
    refine ⟨?_, ?_, ?_⟩
    rotate_left
    · simp -implicitDefEqProofs only [rs_eval, rs_base, rs_code, ↓husable, ↓hwipe, ↓hmap, ↓hseg, usableValue, okUnit,
        EmbedShm.sizes, HEADER_SIZE, SEGMENT_SIZE, writerValue, fixEvents, hu, versionStore, evStore]
      rfl
    · rfl
  · -- usable: the file length decides whether the file is grown in place
    have hu : f.usable = true := hd.mpr ⟨h, rfl⟩
    simp only [pathObj] at husable hmap ⊢
    by_cases hl : f.len < 72 <;>
    · simp only [fixAnswers, SEGMENT_SIZE, hu, hl, if_true, if_false, List.cons_append, List.nil_append, List.append_nil,
        List.length_cons, List.length_nil, Nat.add_zero, Answers, Nat.add_assoc, Nat.reduceAdd, and_true] at hfix hmap
      refine ⟨?_, ?_, ?_⟩
      rotate_left
      · simp -implicitDefEqProofs only [rs_eval, rs_base, rs_code, ↓husable, ↓hmap, ↓hseg, usableValue, okUnit, fileObj,
          EmbedShm.sizes, HEADER_SIZE, SEGMENT_SIZE, writerValue, fixEvents, hu, hl, hfix, versionStore, evStore, evFs,
          Nat.add_assoc]
        rfl
      · rfl

end ClockBound.Rs.WriterNewProof

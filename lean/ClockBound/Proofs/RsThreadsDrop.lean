/-
  Proof of `CodeTieThreads.drop_eq` (`Drop for Context::drop`): one evaluation, for a variable id `c` (its `clone()`
  is `method_clone_chan`) and variable `panicking()` and send outcome: the `if` of the function chooses between two
  values in the same state and is folded into `noticeOf c p` (`ite_notice`) before anything depends on it; the
  outcome of the send is only matched on, at the end.
-/
import ClockBound.Proofs.RsThreadsDrop0
namespace ClockBound.Rs.ThreadsProof
open ClockBound ClockBound.Rs ClockBound.Generated ClockBound.Rs.DictThreads ClockBound.Rs.EmbedThreads
open ClockBound.Threads

attribute [-rs_eval] DictThreads.chanValue
open scoped ClockBound.Rs.CallByValue

/-- `chanValue` on the three ids (the evaluation keeps `chanValue c` folded) -/
theorem chanValue_ids : chanValue .main = .enumv "ChannelId::MainThread" [] ∧
    chanValue .poller = .enumv "ChannelId::ClockErrorBoundPoller" [] ∧
    chanValue .writer = .enumv "ChannelId::ShmWriter" [] := ⟨rfl, rfl, rfl⟩

theorem ite_notice (c : Thread) (p : Bool) (st : St) :
    (if p = true then Res.val (.enumv "Message::ThreadPanic" [chanValue c]) st
     else Res.val (.enumv "Message::ThreadTerminate" [chanValue c]) st) = Res.val (noticeOf c p).value st := by
  cases p <;> rfl

/-- a notice is no untyped integer literal and no bare name: declared types and `let` leave it alone -/
theorem ascribe_notice (ty : String) (c : Thread) (p : Bool) :
    ascribe ty (noticeOf c p).value = some (noticeOf c p).value := by cases p <;> rfl

theorem letValue_notice (e : Ext) (ty : Option String) (c : Thread) (p : Bool) :
    letValue e ty (noticeOf c p).value = (noticeOf c p).value := by cases p <;> rfl

theorem drop_tie (c : Thread) (ks : List Thread) (p ok : Bool) (nowNs : Int) (inp : Nat → Value)
    (h0 : inp 0 = .bool p) (h1 : inp 1 = sendResult ok (noticeOf c p).value) :
    run (Code.ctxWith nowNs DictThreads.ext [] inp) "Drop for Context::drop" (contextValue c ks) []
    = .ok .unit (contextValue c ks)
        [evPanicking (.bool p),
         evSend (chanValue .main) (noticeOf c p).value (sendResult ok (noticeOf c p).value)] := by
  -- a channel id has no `clone` among the translated functions (it is the dictionary's: `method_clone_chan`)
  have hclone : methodDecl Code.fns Code.enums (chanValue c) "clone" = none := by
    cases c <;> simp only [chanValue, rs_eval, rs_base, rs_code]
  simp only [Code.fns, Code.enums] at hclone
  simp -implicitDefEqProofs only [rs_eval, rs_base, rs_code, contextValue, dispatchValue, allChans, chanValue_ids,
    h0, h1, hclone, ite_notice, ascribe_notice, letValue_notice]
  cases ok <;> simp -implicitDefEqProofs only [sendResult, rs_eval, rs_base, rs_code]

end ClockBound.Rs.ThreadsProof

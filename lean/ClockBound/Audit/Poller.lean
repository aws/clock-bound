/-
  Axiom audit of the poller theorems (C13, C12 daemon half) and their helper lemmas: every line must
  report a subset of {propext, Classical.choice, Quot.sound}.
  Run: `lake env lean ClockBound/Audit/Poller.lean`
-/
import ClockBound.Properties.C13
import ClockBound.Properties.C12d
open ClockBound
#print axioms C13.run_getElem
#print axioms C13.silence_grace_iff_general
#print axioms C13.last_le_grace
#print axioms C13.silence_grace_iff
#print axioms C13.lastAccepted_none_of_silences
#print axioms C13.startup_never_grace_of_le
#print axioms C13.startup_never_grace
#print axioms C13.startup_grace_if_backwards
#print axioms C13.startup_run_all_unknown
#print axioms C13.other_reply_is_silence
#print axioms C13.phc_added_iff_refid_matches
#print axioms C13.phc_failure_not_a_measurement
#print axioms C13.nongrace_phc_failure_unreachable
#print axioms C13.phc_failure_in_grace_in_run
#print axioms C13.model_holds
#print axioms C12d.asof_read_precedes_query
#print axioms C12d.trace_actions
#print axioms C12d.trace_send_is_step_msg
#print axioms C12d.data_asof_is_first_read
#print axioms C12d.data_msg_independent_of_delay
#print axioms C12d.obsLog_prefix
#print axioms C12d.holdsIter_step
#print axioms C12d.holds_from
#print axioms C12d.model_holds
#print axioms PollerState.withinGrace_iff
#print axioms pollStep_silence
#print axioms pollStep_tracking
#print axioms consulted_phc
#print axioms PollIter.step_lastGood
#print axioms Poller.stateAfter_lastGood
#print axioms Poller.stateAfter_init
#print axioms Poller.runFrom_append
#print axioms Poller.runFrom_length_le
#print axioms Poller.runFrom_length_of_no_panic
#print axioms Poller.runFrom_silences
#print axioms Poller.msgAfter_silence
#print axioms PollIter.readings_silence
#print axioms pairwise_of_nonDecreasing
#print axioms C13.foldl_accept_mem
#print axioms C13.holdsIter_step
#print axioms C13.holdsFrom_runFrom

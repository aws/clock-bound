import ClockBound.Properties.C16
import ClockBound.Properties.C17
open ClockBound
#print axioms C16.open_ok_iff
#print axioms C16.open_ok_iff_lim
#print axioms C16.open_error_kind
#print axioms C16.open_missing
#print axioms C16.open_directory
#print axioms C16.open_mmap_refused
#print axioms C16.open_total
#print axioms C16.open_spec
#print axioms C16.model_holds_open
#print axioms C16.start_directory
#print axioms C16.snapshot_of
#print axioms C16.repair_roundtrip
#print axioms C16.truncated_extended
#print axioms C16.model_holds_seg
#print axioms C17.decode_encode
#print axioms C17.decode_encode_zero_pad
#print axioms C17.unsigned_roundtrip
#print axioms C17.signed_roundtrip
#print axioms C17.byte_order
#print axioms C17.total_size
#print axioms C17.field_magic
#print axioms C17.field_segsize
#print axioms C17.field_version
#print axioms C17.field_generation
#print axioms C17.field_asOf
#print axioms C17.field_voidAfter
#print axioms C17.field_bound
#print axioms C17.field_drift
#print axioms C17.field_reserved
#print axioms C17.field_status
#print axioms C17.field_padding
#print axioms C17.layout_sound
#print axioms C17.status_codes
#print axioms C17.doc_endianness
#print axioms C17.doc_layout_agrees
#print axioms C17.doc_types_agree
#print axioms C17.doc_plan
#print axioms C17.doc_status_agrees
#print axioms C17.rust_magic_agrees
#print axioms C17.rust_header_layout
#print axioms C17.rust_record_layout
#print axioms C17.rust_layout_is_model_layout
#print axioms C17.rust_status_agrees
#print axioms C17.c_enums_agree
#print axioms C17.c_err_kind_codes
#print axioms C17.c_status_codes
#print axioms C17.c_structs_agree
#print axioms C17.c_functions_agree
#print axioms C17.abi_expected
#print axioms C17.docDecode_eq
#print axioms C17.holds_seg_of
#print axioms C17.model_holds_seg
#print axioms C17.model_holds_sandwich
#print axioms C17.model_holds_open
#print axioms C17.model_holds_abi
-- Properties/C17Magic.lean (C17.magic_doc_agrees) is audited by ./check only once it builds, i.e. after
-- docs/PROTOCOL.md spells the magic number as the code writes it; until then its build failure IS the finding.

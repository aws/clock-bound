/-
  Simp sets used by the proofs of the translation tie:
  * `rs_code`: unfolding lemmas emitted by the translator next to every generated declaration;
  * `rs_eval`: the equations of the interpreter (`ClockBound/Rs/Interp.lean`) and of its dictionary;
  * `rs_base`: the lemmas about `List`, `Option`, `Bool`, `Nat`/`Int` literals and the connectives that running the
    interpreter needs besides (filled in `Proofs/RsEval.lean`).  `simp only [rs_eval, rs_code, rs_base, ..]` is the
    evaluator: closed under these three sets, it does not search the library's default simp set.

  `rs_register_eqns f g ..` adds the *equation lemmas* `f.eq_1, f.eq_2, ..` of the given functions to
  `rs_eval`.  (The interpreter recurses on a fuel counter; `simp [eval]` would unfold `eval 199 .. e ..`
  for a variable `e` as well and never stop, whereas the equation lemmas only fire on a constructor.)
-/
import Lean.Meta.Tactic.Simp.RegisterCommand
import Lean.Elab.Command

/-- unfolding lemmas of `ClockBound.Generated.Code` (emitted by the translator) -/
register_simp_attr rs_code

/-- equations of the Rust-fragment interpreter -/
register_simp_attr rs_eval

/-- library lemmas and simprocs the evaluation of a program needs (lists, options, literals, connectives) -/
register_simp_attr rs_base

/-- the equations that unfold ONE iteration of a loop (`evalWhile`, `evalFor`): kept out of `rs_eval` so
    that normalising a function stops at its loops; add `rs_loop` to unroll a loop with a concrete
    number of iterations -/
register_simp_attr rs_loop

open Lean Meta Elab Command in
/-- add all equation lemmas of the given functions to the simp set `rs_eval` -/
elab "rs_register_eqns " ids:ident+ : command => do
  for id in ids do
    let declName ← liftCoreM <| realizeGlobalConstNoOverloadWithInfo id
    let some eqns ← liftTermElabM <| getEqnsFor? declName
      | throwError "no equation lemmas for {declName}"
    let some ext ← liftCoreM <| getSimpExtension? `rs_eval
      | throwError "simp set rs_eval is not registered"
    for e in eqns do
      liftTermElabM <| addSimpTheorem ext e (post := true) (inv := false) AttributeKind.global (prio := 1000)

open Lean Meta Elab Command in
/-- add all equation lemmas of the given functions to the simp set `rs_loop` -/
elab "rs_register_loop_eqns " ids:ident+ : command => do
  for id in ids do
    let declName ← liftCoreM <| realizeGlobalConstNoOverloadWithInfo id
    let some eqns ← liftTermElabM <| getEqnsFor? declName
      | throwError "no equation lemmas for {declName}"
    let some ext ← liftCoreM <| getSimpExtension? `rs_loop
      | throwError "simp set rs_loop is not registered"
    for e in eqns do
      liftTermElabM <| addSimpTheorem ext e (post := true) (inv := false) AttributeKind.global (prio := 1000)
